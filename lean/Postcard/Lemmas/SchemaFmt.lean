import Postcard.Model.SchemaFmt
/-
  The schema inspection helpers (C19).  The derived `PartialEq` is equality (`Schema.beq_iff`).
  `discover_tys` is measured against a reference walk `subterms`, which lists exactly the nodes
  related by `Subterm` (`mem_subterms`): with `walkOutcome` naming the two possible outcomes,
  `discoverTys_eq` says that the walk panics iff it meets a panicking leaf (`hasPanicLeaf`) and is
  the reference walk otherwise.  Last, where field and variant names sit in the rendering.
-/
namespace Postcard

mutual
theorem Schema.beq_refl : ∀ a : Schema, a.beq a = true
  | .bool | .i8 | .u8 | .i16 | .i32 | .i64 | .i128 | .u16 | .u32 | .u64 | .u128
  | .usize | .isize | .f32 | .f64 | .char | .string | .byteArray | .unit | .schema => rfl
  | .option a | .seq a => Schema.beq_refl a
  | .tuple as => Schema.beqList_refl as
  | .map k v => by simp only [Schema.beq, Schema.beq_refl k, Schema.beq_refl v, Bool.and_self]
  | .struct n d => by simp only [Schema.beq, SData.beq_refl d, beq_self_eq_true, Bool.and_self]
  | .enum n vs => by
    simp only [Schema.beq, SVariant.beqList_refl vs, beq_self_eq_true, Bool.and_self]
theorem Schema.beqList_refl : ∀ a : List Schema, Schema.beqList a a = true
  | [] => rfl
  | a :: as => by
    simp only [Schema.beqList, Schema.beq_refl a, Schema.beqList_refl as, Bool.and_self]
theorem SData.beq_refl : ∀ a : SData, a.beq a = true
  | .unit => rfl
  | .newtype a => Schema.beq_refl a
  | .tuple as => Schema.beqList_refl as
  | .struct fs => SField.beqList_refl fs
theorem SField.beqList_refl : ∀ a : List SField, SField.beqList a a = true
  | [] => rfl
  | .mk n a :: as => by
    simp only [SField.beqList, Schema.beq_refl a, SField.beqList_refl as, beq_self_eq_true,
      Bool.and_self]
theorem SVariant.beqList_refl : ∀ a : List SVariant, SVariant.beqList a a = true
  | [] => rfl
  | .mk n a :: as => by
    simp only [SVariant.beqList, SData.beq_refl a, SVariant.beqList_refl as, beq_self_eq_true,
      Bool.and_self]
end

theorem Schema.eq_of_beq_all :
    (∀ a b : Schema, a.beq b = true → a = b) ∧
    (∀ a b : List SVariant, SVariant.beqList a b = true → a = b) ∧
    (∀ a b : SData, a.beq b = true → a = b) ∧
    (∀ a b : List SField, SField.beqList a b = true → a = b) ∧
    (∀ a b : List Schema, Schema.beqList a b = true → a = b) := by
  apply Schema.beq.mutual_induct
  all_goals intros
  any_goals rfl
  -- Functional induction along the clauses of `beq`; `h` is the clause's `beq … = true`.  On a
  -- catch-all clause its equation needs the overlap hypotheses (26 for `Schema.beq`), which are in
  -- the context: hence `*`.
  all_goals rename_i h
  all_goals simp only [Schema.beq, Schema.beqList, SData.beq, SField.beqList, SVariant.beqList,
    Bool.and_eq_true, beq_iff_eq, Bool.false_eq_true, *] at h
  -- left: the clauses with components, where `h` says `beq … = true` of each component; the
  -- induction hypotheses turn these into the equations
  all_goals simp_all only

theorem Schema.eq_of_beq (a b : Schema) (h : a.beq b = true) : a = b :=
  Schema.eq_of_beq_all.1 a b h
theorem SVariant.eq_of_beqList (a b : List SVariant) (h : SVariant.beqList a b = true) :
    a = b := Schema.eq_of_beq_all.2.1 a b h
theorem SData.eq_of_beq (a b : SData) (h : a.beq b = true) : a = b :=
  Schema.eq_of_beq_all.2.2.1 a b h
theorem SField.eq_of_beqList (a b : List SField) (h : SField.beqList a b = true) : a = b :=
  Schema.eq_of_beq_all.2.2.2.1 a b h
theorem Schema.eq_of_beqList (a b : List Schema) (h : Schema.beqList a b = true) : a = b :=
  Schema.eq_of_beq_all.2.2.2.2 a b h

theorem Schema.beq_iff (a b : Schema) : a.beq b = true ↔ a = b :=
  ⟨Schema.eq_of_beq a b, fun h => h ▸ Schema.beq_refl a⟩

theorem SData.beq_iff (a b : SData) : a.beq b = true ↔ a = b :=
  ⟨SData.eq_of_beq a b, fun h => h ▸ SData.beq_refl a⟩

instance : LawfulBEq Schema where
  eq_of_beq {a b} h := Schema.eq_of_beq a b h
  rfl {a} := Schema.beq_refl a

instance : DecidableEq Schema := fun a b => decidable_of_iff _ (Schema.beq_iff a b)
instance : DecidableEq SData := fun a b => decidable_of_iff _ (SData.beq_iff a b)

theorem nodup_eraseDups {α} [BEq α] [LawfulBEq α] : ∀ l : List α, l.eraseDups.Nodup
  | [] => by simp
  | a :: as => by
    rw [List.eraseDups_cons, List.nodup_cons]
    exact ⟨by simp [List.mem_eraseDups], nodup_eraseDups _⟩
termination_by l => l.length
decreasing_by exact Nat.lt_succ_of_le (List.length_filter_le _ _)

inductive DataChild : Schema → SData → Prop
  | newtype {t} : DataChild t (.newtype t)
  | tuple {t ts} : t ∈ ts → DataChild t (.tuple ts)
  | field {t fn fs} : SField.mk fn t ∈ fs → DataChild t (.struct fs)

inductive Child : Schema → Schema → Prop
  | option {t} : Child t (.option t)
  | seq {t} : Child t (.seq t)
  | tuple {t ts} : t ∈ ts → Child t (.tuple ts)
  | mapKey {k v} : Child k (.map k v)
  | mapVal {k v} : Child v (.map k v)
  | struct {t n d} : DataChild t d → Child t (.struct n d)
  | enum {t n vn d vs} : SVariant.mk vn d ∈ vs → DataChild t d → Child t (.enum n vs)

/-- `Subterm x s`: `x` is `s` or is nested anywhere inside `s`
(reflexive-transitive closure of `Child`). -/
inductive Subterm : Schema → Schema → Prop
  | refl {s} : Subterm s s
  | step {x t s} : Subterm x t → Child t s → Subterm x s

theorem Subterm.trans {x y z : Schema} (h₁ : Subterm x y) (h₂ : Subterm y z) : Subterm x z := by
  induction h₂ with
  | refl => exact h₁
  | step _ c ih => exact .step ih c

mutual
/-- The reference walk: the node itself, then the walks of its children, in
declaration order. -/
def subterms : Schema → List Schema
  | .option t => .option t :: subterms t
  | .seq t => .seq t :: subterms t
  | .tuple ts => .tuple ts :: subtermsList ts
  | .map k v => .map k v :: (subterms k ++ subterms v)
  | .struct n d => .struct n d :: subtermsData d
  | .enum n vs => .enum n vs :: subtermsVariants vs
  | s => [s]
termination_by structural s => s
def subtermsList : List Schema → List Schema
  | [] => []
  | t :: ts => subterms t ++ subtermsList ts
termination_by structural ts => ts
def subtermsData : SData → List Schema
  | .unit => []
  | .newtype t => subterms t
  | .tuple ts => subtermsList ts
  | .struct fs => subtermsFields fs
termination_by structural d => d
def subtermsFields : List SField → List Schema
  | [] => []
  | .mk _ t :: fs => subterms t ++ subtermsFields fs
termination_by structural fs => fs
def subtermsVariants : List SVariant → List Schema
  | [] => []
  | .mk _ d :: vs => subtermsData d ++ subtermsVariants vs
termination_by structural vs => vs
end

theorem self_mem_subterms (s : Schema) : s ∈ subterms s := by
  cases s <;> exact List.mem_cons_self

mutual
theorem subterm_of_mem : ∀ (s x : Schema), x ∈ subterms s → Subterm x s
  | .option t => fun x h => by
    rcases List.mem_cons.1 h with rfl | h
    · exact .refl
    · exact .step (subterm_of_mem t x h) .option
  | .seq t => fun x h => by
    rcases List.mem_cons.1 h with rfl | h
    · exact .refl
    · exact .step (subterm_of_mem t x h) .seq
  | .tuple ts => fun x h => by
    rcases List.mem_cons.1 h with rfl | h
    · exact .refl
    · obtain ⟨t, hm, hs⟩ := subterm_of_memList ts x h
      exact .step hs (.tuple hm)
  | .map k v => fun x h => by
    rcases List.mem_cons.1 h with rfl | h
    · exact .refl
    · rcases List.mem_append.1 h with h | h
      · exact .step (subterm_of_mem k x h) .mapKey
      · exact .step (subterm_of_mem v x h) .mapVal
  | .struct n d => fun x h => by
    rcases List.mem_cons.1 h with rfl | h
    · exact .refl
    · obtain ⟨t, c, hs⟩ := subterm_of_memData d x h
      exact .step hs (.struct c)
  | .enum n vs => fun x h => by
    rcases List.mem_cons.1 h with rfl | h
    · exact .refl
    · obtain ⟨vn, d, hm, t, c, hs⟩ := subterm_of_memVariants vs x h
      exact .step hs (.enum hm c)
  | .bool | .i8 | .u8 | .i16 | .i32 | .i64 | .i128
  | .u16 | .u32 | .u64 | .u128 | .usize | .isize
  | .f32 | .f64 | .char | .string | .byteArray
  | .unit | .schema => fun x h => by
    cases List.mem_singleton.1 h
    exact .refl
theorem subterm_of_memList : ∀ (ts : List Schema) (x : Schema), x ∈ subtermsList ts →
    ∃ t, t ∈ ts ∧ Subterm x t
  | [] => fun _ h => nomatch h
  | t :: ts => fun x h => by
    rcases List.mem_append.1 h with h | h
    · exact ⟨t, List.mem_cons_self, subterm_of_mem t x h⟩
    · obtain ⟨t', hm, hs⟩ := subterm_of_memList ts x h
      exact ⟨t', List.mem_cons_of_mem _ hm, hs⟩
theorem subterm_of_memData : ∀ (d : SData) (x : Schema), x ∈ subtermsData d →
    ∃ t, DataChild t d ∧ Subterm x t
  | .unit => fun _ h => nomatch h
  | .newtype t => fun x h => ⟨t, .newtype, subterm_of_mem t x h⟩
  | .tuple ts => fun x h => by
    obtain ⟨t, hm, hs⟩ := subterm_of_memList ts x h
    exact ⟨t, .tuple hm, hs⟩
  | .struct fs => fun x h => by
    obtain ⟨fn, t, hm, hs⟩ := subterm_of_memFields fs x h
    exact ⟨t, .field hm, hs⟩
theorem subterm_of_memFields : ∀ (fs : List SField) (x : Schema), x ∈ subtermsFields fs →
    ∃ fn t, SField.mk fn t ∈ fs ∧ Subterm x t
  | [] => fun _ h => nomatch h
  | .mk n t :: fs => fun x h => by
    rcases List.mem_append.1 h with h | h
    · exact ⟨n, t, List.mem_cons_self, subterm_of_mem t x h⟩
    · obtain ⟨fn, t', hm, hs⟩ := subterm_of_memFields fs x h
      exact ⟨fn, t', List.mem_cons_of_mem _ hm, hs⟩
theorem subterm_of_memVariants : ∀ (vs : List SVariant) (x : Schema), x ∈ subtermsVariants vs →
    ∃ vn d, SVariant.mk vn d ∈ vs ∧ ∃ t, DataChild t d ∧ Subterm x t
  | [] => fun _ h => nomatch h
  | .mk n d :: vs => fun x h => by
    rcases List.mem_append.1 h with h | h
    · exact ⟨n, d, List.mem_cons_self, subterm_of_memData d x h⟩
    · obtain ⟨vn, d', hm, r⟩ := subterm_of_memVariants vs x h
      exact ⟨vn, d', List.mem_cons_of_mem _ hm, r⟩
end

theorem mem_subtermsList {x t : Schema} {ts : List Schema} (hm : t ∈ ts) (h : x ∈ subterms t) :
    x ∈ subtermsList ts := by
  induction hm with
  | head _ => exact List.mem_append_left _ h
  | tail _ _ ih => exact List.mem_append_right _ ih

theorem mem_subtermsFields {x t : Schema} {fn : Name} {fs : List SField}
    (hm : SField.mk fn t ∈ fs) (h : x ∈ subterms t) : x ∈ subtermsFields fs := by
  induction hm with
  | head _ => exact List.mem_append_left _ h
  | tail f _ ih =>
    cases f
    exact List.mem_append_right _ ih

theorem mem_subtermsData {x t : Schema} : ∀ {d : SData},
    DataChild t d → x ∈ subterms t → x ∈ subtermsData d
  | _, .newtype, h => h
  | _, .tuple hm, h => mem_subtermsList hm h
  | _, .field hm, h => mem_subtermsFields hm h

theorem mem_subtermsVariants {x : Schema} {vn : Name} {d : SData} {vs : List SVariant}
    (hm : SVariant.mk vn d ∈ vs) (h : x ∈ subtermsData d) : x ∈ subtermsVariants vs := by
  induction hm with
  | head _ => exact List.mem_append_left _ h
  | tail v _ ih =>
    cases v
    exact List.mem_append_right _ ih

theorem mem_subterms_of_child {x t s : Schema} (c : Child t s) (h : x ∈ subterms t) :
    x ∈ subterms s := by
  cases c with
  | option | seq => exact List.mem_cons_of_mem _ h
  | tuple hm => exact List.mem_cons_of_mem _ (mem_subtermsList hm h)
  | mapKey => exact List.mem_cons_of_mem _ (List.mem_append_left _ h)
  | mapVal => exact List.mem_cons_of_mem _ (List.mem_append_right _ h)
  | struct c => exact List.mem_cons_of_mem _ (mem_subtermsData c h)
  | «enum» hm c => exact List.mem_cons_of_mem _ (mem_subtermsVariants hm (mem_subtermsData c h))

theorem mem_subterms {x s : Schema} : x ∈ subterms s ↔ Subterm x s := by
  refine ⟨subterm_of_mem s x, fun h => ?_⟩
  induction h with
  | refl => exact self_mem_subterms _
  | step _ c ih => exact mem_subterms_of_child c ih

mutual
/-- A `usize`/`isize`/`schema` node is met by the walk. -/
def hasPanicLeaf : Schema → Bool
  | .usize | .isize | .schema => true
  | .option t => hasPanicLeaf t
  | .seq t => hasPanicLeaf t
  | .tuple ts => hasPanicLeafList ts
  | .map k v => hasPanicLeaf k || hasPanicLeaf v
  | .struct _ d => hasPanicLeafData d
  | .enum _ vs => hasPanicLeafVariants vs
  | _ => false
termination_by structural s => s
def hasPanicLeafList : List Schema → Bool
  | [] => false
  | t :: ts => hasPanicLeaf t || hasPanicLeafList ts
termination_by structural ts => ts
def hasPanicLeafData : SData → Bool
  | .unit => false
  | .newtype t => hasPanicLeaf t
  | .tuple ts => hasPanicLeafList ts
  | .struct fs => hasPanicLeafFields fs
termination_by structural d => d
def hasPanicLeafFields : List SField → Bool
  | [] => false
  | .mk _ t :: fs => hasPanicLeaf t || hasPanicLeafFields fs
termination_by structural fs => fs
def hasPanicLeafVariants : List SVariant → Bool
  | [] => false
  | .mk _ d :: vs => hasPanicLeafData d || hasPanicLeafVariants vs
termination_by structural vs => vs
end

/-- the three kinds on which the unrepaired `discover_tys` panics -/
def isPanicKind : Schema → Bool
  | .usize | .isize | .schema => true
  | _ => false

theorem isPanicKind_iff (x : Schema) :
    isPanicKind x = true ↔ x = .usize ∨ x = .isize ∨ x = .schema := by
  cases x <;> simp [isPanicKind]

theorem hasPanicLeaf_eq_all :
    (∀ s, hasPanicLeaf s = (subterms s).any isPanicKind) ∧
    (∀ vs, hasPanicLeafVariants vs = (subtermsVariants vs).any isPanicKind) ∧
    (∀ d, hasPanicLeafData d = (subtermsData d).any isPanicKind) ∧
    (∀ fs, hasPanicLeafFields fs = (subtermsFields fs).any isPanicKind) ∧
    (∀ ts, hasPanicLeafList ts = (subtermsList ts).any isPanicKind) := by
  -- Functional induction along the clauses of `hasPanicLeaf` (conjuncts in the order of the
  -- motives of `hasPanicLeaf.mutual_induct`).  `*`: the induction hypotheses, and on the catch-all
  -- clause the overlap hypotheses that the catch-all equations of `hasPanicLeaf`, `subterms` and
  -- `isPanicKind` need.
  apply hasPanicLeaf.mutual_induct
  all_goals intros
  all_goals simp only [hasPanicLeaf, hasPanicLeafList, hasPanicLeafData, hasPanicLeafFields,
    hasPanicLeafVariants, subterms, subtermsList, subtermsData, subtermsFields, subtermsVariants,
    List.any_cons, List.any_append, List.any_nil, isPanicKind, Bool.false_or, Bool.or_false, *]

theorem hasPanicLeaf_eq : ∀ s : Schema, hasPanicLeaf s = (subterms s).any isPanicKind :=
  hasPanicLeaf_eq_all.1
theorem hasPanicLeafList_eq : ∀ ts : List Schema,
    hasPanicLeafList ts = (subtermsList ts).any isPanicKind := hasPanicLeaf_eq_all.2.2.2.2
theorem hasPanicLeafData_eq : ∀ d : SData,
    hasPanicLeafData d = (subtermsData d).any isPanicKind := hasPanicLeaf_eq_all.2.2.1
theorem hasPanicLeafFields_eq : ∀ fs : List SField,
    hasPanicLeafFields fs = (subtermsFields fs).any isPanicKind := hasPanicLeaf_eq_all.2.2.2.1
theorem hasPanicLeafVariants_eq : ∀ vs : List SVariant,
    hasPanicLeafVariants vs = (subtermsVariants vs).any isPanicKind := hasPanicLeaf_eq_all.2.1

/-- the outcome of the walk: with `leafPanics` it panics iff a panic leaf is
met, otherwise (and always on the repaired code) it is the reference walk. -/
def walkOutcome (lp : Bool) (panics : Bool) (l : List Schema) : R (List Schema) :=
  if lp && panics then .error .panic else .ok l

theorem walkOutcome_map (lp p : Bool) (l : List Schema) (f : List Schema → List Schema) :
    andThen (walkOutcome lp p l) (fun a => .ok (f a)) = walkOutcome lp p (f l) := by
  cases lp <;> cases p <;> rfl

theorem walkOutcome_bind (lp p q : Bool) (l : List Schema) (g : List Schema → List Schema) :
    andThen (walkOutcome lp p l) (fun a => walkOutcome lp q (g a)) =
      walkOutcome lp (p || q) (g l) := by
  cases lp <;> cases p <;> cases q <;> rfl

theorem walkOutcome_false (lp : Bool) (l : List Schema) : walkOutcome lp false l = .ok l := by
  cases lp <;> rfl

theorem walkOutcome_true (p : Bool) (l : List Schema) :
    walkOutcome true p l = if p then .error .panic else .ok l := rfl

theorem discoverTys_eq_all (lp : Bool) :
    (∀ s, discoverTys lp s = walkOutcome lp (hasPanicLeaf s) (subterms s)) ∧
    (∀ vs, discoverVariants lp vs =
      walkOutcome lp (hasPanicLeafVariants vs) (subtermsVariants vs)) ∧
    (∀ d, discoverData lp d = walkOutcome lp (hasPanicLeafData d) (subtermsData d)) ∧
    (∀ fs, discoverFields lp fs = walkOutcome lp (hasPanicLeafFields fs) (subtermsFields fs)) ∧
    (∀ ts, discoverList lp ts = walkOutcome lp (hasPanicLeafList ts) (subtermsList ts)) := by
  apply discoverTys.mutual_induct lp
  all_goals intros
  -- unfold, rewrite the recursive walks by the induction hypotheses (`*`), and combine the
  -- outcomes from the inside out: `walkOutcome_map` on the innermost `andThen`, then
  -- `walkOutcome_bind`
  all_goals simp only [discoverTys, discoverList, discoverData, discoverFields, discoverVariants,
    hasPanicLeaf, hasPanicLeafList, hasPanicLeafData, hasPanicLeafFields, hasPanicLeafVariants,
    subterms, subtermsList, subtermsData, subtermsFields, subtermsVariants,
    walkOutcome_map, walkOutcome_bind, walkOutcome_false, *]
  -- what is left: the leaves `usize`, `isize`, `schema`, where the induction has split on
  -- `leafPanics`
  all_goals rfl

theorem discoverTys_eq (lp : Bool) : ∀ s : Schema,
    discoverTys lp s = walkOutcome lp (hasPanicLeaf s) (subterms s) := (discoverTys_eq_all lp).1
theorem discoverList_eq (lp : Bool) : ∀ ts : List Schema,
    discoverList lp ts = walkOutcome lp (hasPanicLeafList ts) (subtermsList ts) :=
  (discoverTys_eq_all lp).2.2.2.2
theorem discoverData_eq (lp : Bool) : ∀ d : SData,
    discoverData lp d = walkOutcome lp (hasPanicLeafData d) (subtermsData d) :=
  (discoverTys_eq_all lp).2.2.1
theorem discoverFields_eq (lp : Bool) : ∀ fs : List SField,
    discoverFields lp fs = walkOutcome lp (hasPanicLeafFields fs) (subtermsFields fs) :=
  (discoverTys_eq_all lp).2.2.2.1
theorem discoverVariants_eq (lp : Bool) : ∀ vs : List SVariant,
    discoverVariants lp vs = walkOutcome lp (hasPanicLeafVariants vs) (subtermsVariants vs) :=
  (discoverTys_eq_all lp).2.1

theorem field_infix_fieldsTail {fn : Name} {t : Schema} {fs : List SField}
    (hm : SField.mk fn t ∈ fs) : (fn ++ ascii ": " ++ fmtDmt false t) <:+: fmtFieldsTail fs := by
  induction hm with
  | head fs => exact ⟨ascii ", ", fmtFieldsTail fs, by simp [fmtFieldsTail, List.append_assoc]⟩
  | tail f _ ih =>
    cases f
    exact List.infix_append_of_infix_right ih

theorem field_infix_fmtData {fn : Name} {t : Schema} {fs : List SField}
    (hm : SField.mk fn t ∈ fs) :
    (fn ++ ascii ": " ++ fmtDmt false t) <:+: fmtData (.struct fs) := by
  cases hm with
  | head fs =>
    exact ⟨ascii " { ", fmtFieldsTail fs ++ ascii " }", by simp [fmtData, List.append_assoc]⟩
  | tail f h =>
    cases f
    exact List.infix_append_of_infix_left
      (List.infix_append_of_infix_right (field_infix_fieldsTail h))

theorem fieldName_infix_fmtData {fn : Name} {t : Schema} {fs : List SField}
    (h : SField.mk fn t ∈ fs) : fn <:+: fmtData (.struct fs) :=
  List.IsInfix.trans
    (by rw [List.append_assoc]; exact (List.prefix_append fn _).isInfix)
    (field_infix_fmtData h)

theorem variant_infix_variantsTail {vn : Name} {d : SData} {vs : List SVariant}
    (hm : SVariant.mk vn d ∈ vs) : (vn ++ fmtData d) <:+: fmtVariantsTail vs := by
  induction hm with
  | head vs => exact ⟨ascii ", ", fmtVariantsTail vs, by simp [fmtVariantsTail, List.append_assoc]⟩
  | tail v _ ih =>
    cases v
    exact List.infix_append_of_infix_right ih

theorem variant_infix_variants {vn : Name} {d : SData} {vs : List SVariant}
    (hm : SVariant.mk vn d ∈ vs) : (vn ++ fmtData d) <:+: fmtVariants vs := by
  cases hm with
  | head _ => exact (List.prefix_append _ _).isInfix
  | tail v h =>
    cases v
    exact List.infix_append_of_infix_right (variant_infix_variantsTail h)

theorem fmtVariants_infix_enum (name : Name) (vs : List SVariant) :
    fmtVariants vs <:+: fmtDmt true (.enum name vs) := by
  simp only [fmtDmt, if_true]
  exact List.infix_append _ _ _

end Postcard
