import Postcard.Model.Dyn
import Postcard.Model.JsonOf
import Postcard.Lemmas.Varint
import Postcard.Lemmas.Bytes
import Postcard.Lemmas.Codec
import Postcard.Lemmas.SchemaSer

namespace Postcard.Dyn

theorem asStr_eq {j : Json} {u : List Byte} (h : j.asStr = some u) : j = .str u := by
  cases j <;> simp [Json.asStr] at h; subst h; rfl
theorem asArray_eq {j : Json} {xs : List Json} (h : j.asArray = some xs) : j = .arr xs := by
  cases j <;> simp [Json.asArray] at h; subst h; rfl
theorem asObject_eq {j : Json} {kvs : List (List Byte × Json)} (h : j.asObject = some kvs) :
    j = .obj kvs := by
  cases j <;> simp [Json.asObject] at h; subst h; rfl

theorem asU64_range {fo : FloatOps} {j : Json} {n : Nat} (hw : j.wf fo = true)
    (h : j.asU64 = some n) : n < 2 ^ 64 := by
  cases j <;> simp [Json.asU64] at h
  subst h
  simpa [Json.wf] using hw

theorem asI64_range {fo : FloatOps} {j : Json} {x : Int} (hw : j.wf fo = true)
    (h : j.asI64 = some x) : -(2 ^ 63 : Int) ≤ x ∧ x < (2 ^ 63 : Int) := by
  cases j <;> simp [Json.asI64] at h
  · rename_i n
    obtain ⟨h1, rfl⟩ := h
    omega
  · subst h
    simp [Json.wf] at hw
    omega

theorem asI64_ofI64 {x : Int} (h1 : -(2 ^ 63 : Int) ≤ x) (h2 : x < (2 ^ 63 : Int)) :
    (Json.ofI64 x).asI64 = some x := by
  unfold Json.ofI64
  split
  · rfl
  · have h3 : x.toNat ≤ 2 ^ 63 - 1 := by omega
    simp only [Json.asI64, h3, if_true]
    congr 1; omega

theorem asI64_posInt_big {n : Nat} (h : 2 ^ 63 ≤ n) : (Json.posInt n).asI64 = none :=
  if_neg (by omega)

theorem ofI64_not_null (x : Int) : (Json.ofI64 x).isNull = false := by
  unfold Json.ofI64; split <;> rfl

theorem ofI64_eq_jsonOfInt {x : Int} (h1 : -(2 ^ 63 : Int) ≤ x) (h2 : x < (2 ^ 64 : Int)) :
    Json.ofI64 x = jsonOfInt x := by
  unfold Json.ofI64 jsonOfInt
  by_cases h : x < 0
  · rw [if_pos h, if_neg (by omega), if_pos h1]
  · rw [if_neg h, if_pos (by omega), if_pos h2]

theorem bytesLt_irrefl : ∀ a : List Byte, bytesLt a a = false
  | [] => rfl
  | a :: as => by simp [bytesLt, bytesLt_irrefl as]

theorem bytesLt_asymm : ∀ a b : List Byte, bytesLt a b = true → bytesLt b a = false
  | [], [], h => nomatch h
  | [], _ :: _, _ => rfl
  | _ :: _, [], h => nomatch h
  | a :: as, b :: bs, h => by
    simp only [bytesLt] at h ⊢
    split at h
    · rename_i hlt
      have h1 : ¬ b.toNat < a.toNat := by omega
      have h2 : ¬ b.toNat = a.toNat := by omega
      simp [h1, h2]
    · split at h
      · rename_i hnl heq
        simp [heq, bytesLt_asymm as bs h]
      · simp at h

theorem objInsert_last (k : List Byte) (v : Json) :
    ∀ acc : List (List Byte × Json), (∀ p ∈ acc, bytesLt p.1 k = true) →
      objInsert k v acc = acc ++ [(k, v)]
  | [], _ => rfl
  | (k', v') :: rest, h => by
    have h1 := h (k', v') (by simp)
    have hne : k' ≠ k := fun e => by simp [e, bytesLt_irrefl] at h1
    have hlt : bytesLt k k' = false := bytesLt_asymm _ _ h1
    simp [objInsert, hne, hlt, objInsert_last k v rest (fun p hp => h p (by simp [hp]))]

def keysOf (l : List (List Byte × Json)) : List (List Byte) := l.map Prod.fst

theorem allKeysGt_eq (k : List Byte) : ∀ l : List (List Byte × Json),
    allKeysGt k l = (keysOf l).all (bytesLt k)
  | [] => rfl
  | (k', _) :: rest => by simp [allKeysGt, keysOf, allKeysGt_eq k rest]

theorem keysPairwiseLt_iff : ∀ l : List (List Byte × Json),
    keysPairwiseLt l = true ↔ (keysOf l).Pairwise (fun a b => bytesLt a b = true)
  | [] => by simp [keysPairwiseLt, keysOf]
  | (k, _) :: rest => by simp [keysPairwiseLt, allKeysGt_eq, keysOf, keysPairwiseLt_iff rest]

theorem allKeysGt_mem {k : List Byte} {l : List (List Byte × Json)}
    (h : allKeysGt k l = true) : ∀ q ∈ l, bytesLt k q.1 = true := by
  rw [allKeysGt_eq, List.all_eq_true] at h
  exact fun q hq => h q.1 (List.mem_map_of_mem hq)

theorem objInsertAll_sorted : ∀ (l acc : List (List Byte × Json)),
    (∀ p ∈ acc, ∀ q ∈ l, bytesLt p.1 q.1 = true) → keysPairwiseLt l = true →
      objInsertAll acc l = acc ++ l
  | [], acc, _, _ => by simp [objInsertAll]
  | (k, v) :: rest, acc, h, hp => by
    simp [keysPairwiseLt] at hp
    have hins : objInsert k v acc = acc ++ [(k, v)] :=
      objInsert_last k v acc (fun p hp' => h p hp' (k, v) (by simp))
    simp only [objInsertAll, hins]
    rw [objInsertAll_sorted rest (acc ++ [(k, v)]) _ hp.2]
    · simp
    · intro p hp' q hq
      simp at hp'
      rcases hp' with hp' | rfl
      · exact h p hp' q (by simp [hq])
      · exact allKeysGt_mem hp.1 q hq

theorem objGet_insert (k k' : List Byte) (v : Json) :
    ∀ l : List (List Byte × Json),
      objGet k' (objInsert k v l) = if k = k' then some v else objGet k' l
  | [] => rfl
  | (k2, v2) :: rest => by
    simp only [objInsert, objGet]
    split
    · next h => subst h; simp only [objGet]; split <;> rfl
    · split
      · rfl
      · next hne _ =>
        simp only [objGet, objGet_insert k k' v rest]
        split
        · next h => subst h; rw [if_neg (Ne.symm hne)]
        · rfl

theorem length_insert_fresh {k : List Byte} (v : Json) :
    ∀ l : List (List Byte × Json), objGet k l = none → (objInsert k v l).length = l.length + 1
  | [], _ => rfl
  | (k2, v2) :: rest, h => by
    simp only [objGet] at h
    split at h
    · cases h
    · next hne =>
      simp only [objInsert, if_neg hne]
      split
      · rfl
      · simp only [List.length_cons, length_insert_fresh v rest h]

theorem wfKvs_get {fo : FloatOps} {key : List Byte} :
    ∀ {kvs : List (List Byte × Json)} {v : Json},
    Json.wfKvs fo kvs = true → objGet key kvs = some v → v.wf fo = true
  | [], _, _, h => nomatch h
  | (k, v') :: rest, v, hw, h => by
    simp [Json.wfKvs] at hw
    simp only [objGet] at h
    split at h
    · cases h; exact hw.1.2
    · exact wfKvs_get hw.2 h

theorem nameGet_ok {fo : FloatOps} {key : Name} {kvs : List (List Byte × Json)} {n : Name}
    (hw : Json.wfKvs fo kvs = true) (h : nameGet key kvs = some n) : nameOk n = true := by
  unfold nameGet at h
  split at h
  · rename_i s hg
    cases h
    have := wfKvs_get hw hg
    simpa [Json.wf, nameOk] using this
  · cases h

theorem toJsonList_length (fo : FloatOps) :
    ∀ vs : List NVal, (toJsonList fo vs).length = vs.length
  | [] => rfl
  | _ :: vs => by simp [toJsonList, toJsonList_length fo vs]

theorem length_eraseList : ∀ vs : List NVal, (eraseList vs).length = vs.length
  | [] => rfl
  | _ :: vs => by simp [eraseList, length_eraseList vs]

theorem length_zipNames : ∀ (ns : List Name) (js : List Json), ns.length = js.length →
    (zipNames ns js).length = ns.length
  | [], _, _ => rfl
  | _ :: _, [], h => nomatch h
  | _ :: ns, _ :: js, h => congrArg (· + 1) (length_zipNames ns js (Nat.succ.inj h))

theorem toJsonKV_length (fo : FloatOps) : ∀ kvs : List NVal,
    (toJsonKV fo kvs).length = kvs.length / 2
  | [] => rfl
  | [_] => by simp [toJsonKV]
  | _ :: _ :: rest => by
    rw [length_pair_div_two, ← toJsonKV_length fo rest]
    rfl

theorem asI64R_ok {j : Json} {x : Int} (h : asI64R j = .ok x) : j.asI64 = some x := by
  unfold asI64R at h
  split at h
  · cases h
  · next hj => cases h; exact hj

theorem asU64R_ok {j : Json} {n : Nat} (h : asU64R j = .ok n) : j.asU64 = some n := by
  unfold asU64R at h
  split at h
  · cases h
  · next hj => cases h; exact hj

theorem getU_ok {bits : Nat} {j : Json} {n : Nat} (h : getU bits j = .ok n) :
    j.asU64 = some n ∧ n < 2 ^ bits := by
  unfold getU at h
  split at h
  · cases h
  · next hj =>
    split at h
    · next hlt => cases h; exact ⟨hj, hlt⟩
    · cases h

theorem getI_ok {bits : Nat} {j : Json} {x : Int} (h : getI bits j = .ok x) :
    j.asI64 = some x ∧ (-(2 ^ (bits - 1) : Int) ≤ x ∧ x < (2 ^ (bits - 1) : Int)) := by
  unfold getI at h
  split at h
  · cases h
  · next hj =>
    split at h
    · next hr => cases h; exact ⟨hj, hr⟩
    · cases h

theorem getU_posInt {bits n : Nat} (h : n < 2 ^ bits) : getU bits (.posInt n) = .ok n := by
  simp [getU, Json.asU64, h]

theorem getI_ofI64 {bits : Nat} {x : Int}
    (h : -(2 ^ (bits - 1) : Int) ≤ x ∧ x < (2 ^ (bits - 1) : Int))
    (h63 : -(2 ^ 63 : Int) ≤ x ∧ x < (2 ^ 63 : Int)) : getI bits (Json.ofI64 x) = .ok x := by
  simp [getI, asI64_ofI64 h63.1 h63.2, h]

theorem serByteElems_map : ∀ bs : List Byte,
    serByteElems (bs.map fun b => Json.posInt b.toNat) = .ok bs
  | [] => rfl
  | b :: bs => by
    simp only [List.map_cons, serByteElems, getU_posInt b.toNat_lt, serByteElems_map bs,
      UInt8.ofNat_toNat]

theorem serByteElems_length : ∀ {xs : List Json} {bs : List Byte}, serByteElems xs = .ok bs →
    bs.length = xs.length
  | [], bs, h => by cases h; rfl
  | x :: xs, bs, h => by
    simp only [serByteElems] at h
    split at h
    · cases h
    split at h <;> cases h
    rename_i _ _ _ _ bs' hbs
    simp [serByteElems_length hbs]

theorem oneScalar_encode {c : Nat} (h : isScalar c = true) : oneScalar (utf8Encode c) = true := by
  unfold oneScalar
  rw [utf8Next_encode_nil h]

theorem dynTakeN_append {n : Nat} {s r : List Byte} (h : s.length = n) :
    dynTakeN n (s ++ r) = .ok (s, r) := by
  subst h
  simp [dynTakeN]

theorem dynTakeOne_len {bs r : List Byte} {b : Byte} (h : dynTakeOne bs = .ok (b, r)) :
    bs.length = r.length + 1 := by
  cases bs <;> cases h
  rfl

theorem dynTakeN_len {n : Nat} {bs s r : List Byte} (h : dynTakeN n bs = .ok (s, r)) :
    bs.length = n + r.length ∧ s.length = n := by
  unfold dynTakeN at h
  split at h
  · cases h
  · cases h
    simp; omega

theorem dynSerUnitVariant_find {name : Name} {i : Nat} {d : SData} {vs : List SVariant} {k : Nat}
    (h : findVariant vs name k = some (i, d)) :
      dynSerUnitVariant vs k name = dynSerUnitVariant [.mk name d] i name := by
  fun_induction findVariant vs name k with
  | case1 => cases h
  | case2 => simp at h; obtain ⟨rfl, rfl⟩ := h; simp [dynSerUnitVariant]
  | case3 _ _ _ _ _ hn ih => rw [← ih h]; simp [dynSerUnitVariant, hn]

theorem dynSerVariant_find (fo : FloatOps) {name : Name} {i : Nat} {d : SData} (j : Json)
    {vs : List SVariant} {k : Nat}
    (h : findVariant vs name k = some (i, d)) :
      dynSerVariant fo vs k name j = dynSerVariant fo [.mk name d] i name j := by
  fun_induction findVariant vs name k with
  | case1 => cases h
  | case2 =>
    simp at h; obtain ⟨rfl, rfl⟩ := h
    rw [dynSerVariant.eq_def]
    conv => rhs; rw [dynSerVariant.eq_def]
    dsimp only
    rw [if_pos rfl, if_pos rfl]
  | case3 _ _ _ _ _ hn ih => rw [← ih h, dynSerVariant.eq_def]; simp only [hn, if_false]

/-- the index found is `k` plus the number of variants walked over: no subtraction to state it. -/
theorem dynDeVariant_find (fo : FloatOps) {name : Name} {i : Nat} {d : SData} (bs : List Byte)
    {vs : List SVariant} {k : Nat} (h : findVariant vs name k = some (i, d)) :
    ∃ m, i = k + m ∧ dynDeVariant fo vs m bs = dynDeVariant fo [.mk name d] 0 bs := by
  fun_induction findVariant vs name k with
  | case1 => cases h
  | case2 =>
    simp at h; obtain ⟨rfl, rfl⟩ := h
    exact ⟨0, rfl, by rw [dynDeVariant.eq_def]; conv => rhs; rw [dynDeVariant.eq_def]⟩
  | case3 _ _ _ _ k _ ih =>
    obtain ⟨m, hm, e⟩ := ih h
    exact ⟨m + 1, by omega, by rw [dynDeVariant.eq_def]; exact e⟩

theorem dynSerUnitVariant_none {name : Name} {vs : List SVariant} {k : Nat}
    (h : findVariant vs name k = none) :
    dynSerUnitVariant vs k name = .error .schemaMismatch := by
  fun_induction findVariant vs name k with
  | case1 => rfl
  | case2 => cases h
  | case3 _ _ _ _ _ hn ih => simp [dynSerUnitVariant, hn, ih h]

theorem dynSerVariant_none (fo : FloatOps) {name : Name} (j : Json) {vs : List SVariant} {k : Nat}
    (h : findVariant vs name k = none) :
    dynSerVariant fo vs k name j = .error .schemaMismatch := by
  fun_induction findVariant vs name k with
  | case1 => rfl
  | case2 => cases h
  | case3 _ _ _ _ _ hn ih => rw [dynSerVariant.eq_def]; simp only [hn, if_false]; exact ih h

theorem findVariant_lt {name : Name} {i : Nat} {d : SData} {vs : List SVariant} {k : Nat}
    (h : findVariant vs name k = some (i, d)) : i < k + vs.length := by
  fun_induction findVariant vs name k with
  | case1 => cases h
  | case2 => simp at h; simp; omega
  | case3 _ _ _ _ _ _ ih => have := ih h; simp; omega

theorem serVariant_struct (fo : FloatOps) (nm k : Name) (d : SData) (i : Nat) (v : Json) :
    dynSerVariant fo [.mk k d] i k v = match dynSer fo (.struct nm d) v with
      | .error e => .error e | .ok bs => .ok (dynVarint 64 i ++ bs) := by
  rw [dynSerVariant.eq_def]; simp only [if_pos]
  cases d <;> simp only [dynSer, List.append_nil]
  · cases dynSer fo _ v <;> rfl
  · split
    · rfl
    · split <;> rfl
  · split
    · rfl
    · split <;> rfl

theorem deVariant_struct (fo : FloatOps) (nm k : Name) (d : SData) (hd : d ≠ .unit)
    (bs : List Byte) :
    dynDeVariant fo [.mk k d] 0 bs = match dynDe fo (.struct nm d) bs with
      | .error e => .error e | .ok (v, r) => .ok (.obj [(k, v)], r) := by
  rw [dynDeVariant.eq_def]
  cases d with
  | unit => contradiction
  | newtype t => simp only [dynDe]; rcases dynDe fo t bs with e | ⟨v, r⟩ <;> rfl
  | tuple ts => simp only [dynDe]; rcases dynDeList fo ts bs with e | ⟨vs, r⟩ <;> rfl
  | struct fs => simp only [dynDe]; rcases dynDeFields fo fs [] bs with e | ⟨kvs, r⟩ <;> rfl

theorem dynSerUnitVariant_ok {name : Name} {vs : List SVariant} {bs : List Byte}
    (h : dynSerUnitVariant vs 0 name = .ok bs) :
    ∃ i, findVariant vs name 0 = some (i, .unit) ∧ i < vs.length ∧ bs = dynVarint 64 i := by
  cases hfind : findVariant vs name 0 with
  | none => rw [dynSerUnitVariant_none hfind] at h; cases h
  | some p =>
    obtain ⟨i, d⟩ := p
    rw [dynSerUnitVariant_find hfind] at h
    cases d <;> simp [dynSerUnitVariant] at h
    exact ⟨i, rfl, by simpa using findVariant_lt hfind, h.symm⟩

theorem dynSerVariant_ok (fo : FloatOps) (nm : Name) {name : Name} {v : Json} {vs : List SVariant}
    {bs : List Byte} (h : dynSerVariant fo vs 0 name v = .ok bs) :
    ∃ i d a, findVariant vs name 0 = some (i, d) ∧ i < vs.length ∧
      dynSer fo (.struct nm d) v = .ok a ∧ bs = dynVarint 64 i ++ a := by
  cases hfind : findVariant vs name 0 with
  | none => rw [dynSerVariant_none fo v hfind] at h; cases h
  | some p =>
    obtain ⟨i, d⟩ := p
    rw [dynSerVariant_find fo v hfind, serVariant_struct fo nm] at h
    split at h <;> cases h
    rename_i a ha
    exact ⟨i, d, a, rfl, by simpa using findVariant_lt hfind, ha, rfl⟩

theorem mem_allKinds (k : SchemaKind) : k ∈ allKinds :=
  List.mem_of_getElem? (i := k.ctorIdx) (by cases k <;> rfl)

/-- checked for the list of all kinds in one evaluation. -/
theorem kindOfName_kindName (k : SchemaKind) : kindOfName (kindName k) = some k :=
  (by decide +kernel : ∀ k ∈ allKinds, kindOfName (kindName k) = some k) k (mem_allKinds k)

theorem dataKindOfName_dataKindName (k : DataKind) :
    dataKindOfName (dataKindName k) = some k := by
  cases k <;> decide +kernel

theorem schemaOfUnitKind_wf {k : SchemaKind} {s : Schema} (h : schemaOfUnitKind k = some s) :
    s.wf = true := by
  cases k <;> cases h <;> rfl

/-- the key comparisons that `objGet` meets on the objects `jsonOfSchema` builds. -/
theorem key_ne : ascii "val" ≠ ascii "key" ∧ ascii "key" ≠ ascii "val" ∧
    ascii "data" ≠ ascii "name" ∧ ascii "name" ≠ ascii "variants" ∧ ascii "name" ≠ ascii "data" ∧
    ascii "name" ≠ ascii "ty" ∧ ascii "ty" ≠ ascii "name" ∧ ascii "variants" ≠ ascii "name" := by
  decide +kernel

theorem soj_all :
    (∀ s, schemaOfJson (jsonOfSchema s) = some s) ∧
    (∀ vs, variantsOfJsonList (jsonOfVariants vs) = some vs) ∧
    (∀ d, dataOfJson (jsonOfData d) = some d) ∧
    (∀ fs, fieldsOfJsonList (jsonOfFields fs) = some fs) ∧
    (∀ ts, schemaOfJsonList (jsonOfSchemaList ts) = some ts) := by
  apply jsonOfSchema.mutual_induct
  all_goals intros
  all_goals simp only [jsonOfSchema, jsonOfSchemaList, jsonOfData, jsonOfFields, jsonOfVariants,
    schemaOfJson, schemaOfJsonList, dataOfJson, fieldsOfJsonList, variantsOfJsonList, fieldOfJson,
    variantOfJson, kindOfName_kindName, dataKindOfName_dataKindName, schemaOfUnitKind, schemaGet,
    dataGet, nameGet, variantsGet, objGet, key_ne, if_true, if_false, *]

/-- serde_json's `to_value` / `from_value` round-trip on schema values (used by the `Schema`
kind). -/
theorem _root_.Postcard.schemaOfJson_jsonOfSchema (s : Schema) :
    schemaOfJson (jsonOfSchema s) = some s :=
  soj_all.1 s
theorem soj_list : ∀ ts : List Schema, schemaOfJsonList (jsonOfSchemaList ts) = some ts :=
  soj_all.2.2.2.2
theorem soj_data : ∀ d : SData, dataOfJson (jsonOfData d) = some d :=
  soj_all.2.2.1
theorem soj_fields : ∀ fs : List SField, fieldsOfJsonList (jsonOfFields fs) = some fs :=
  soj_all.2.2.2.1
theorem soj_variants : ∀ vs : List SVariant, variantsOfJsonList (jsonOfVariants vs) = some vs :=
  soj_all.2.1

theorem jsonOfSchema_not_null (s : Schema) : (jsonOfSchema s).isNull = false := by
  cases s <;> rfl

end Postcard.Dyn

namespace Postcard.DynA

def costL {α : Type} (c : α → Nat) : List α → Nat
  | [] => 0
  | x :: xs => c x + costL c xs

/-- what the `Value` that `serde_json::to_value` builds for a schema (its data, a field, a variant)
costs as `allocDyn` counts (`Json.cost`).  A field is `{"name": n, "ty": t}`, a variant
`{"data": d, "name": n}`: the constants are the node, the two entries, the key bytes and the node
of the name string. -/
def cS (s : Schema) : Nat := (jsonOfSchema s).cost
def cD (d : SData) : Nat := (jsonOfData d).cost
def cF : SField → Nat
  | .mk n t => 10 + n.length + cS t
def cV : SVariant → Nat
  | .mk n d => 12 + n.length + cD d

/-- the lengths of the identifiers serde-derive writes, in one evaluation. -/
theorem ident_len :
    (kindName .option).length = 6 ∧ (kindName .seq).length = 3 ∧ (kindName .tuple).length = 5 ∧
    (kindName .map).length = 3 ∧ (kindName .struct).length = 6 ∧ (kindName .enum).length = 4 ∧
    (dataKindName .newtype).length = 7 ∧ (dataKindName .tuple).length = 5 ∧
    (dataKindName .struct).length = 6 ∧ (ascii "key").length = 3 ∧ (ascii "val").length = 3 ∧
    (ascii "data").length = 4 ∧ (ascii "name").length = 4 ∧ (ascii "ty").length = 2 ∧
    (ascii "variants").length = 8 := by
  decide +kernel

theorem costList_schemas : ∀ ts : List Schema, Json.costList (jsonOfSchemaList ts) = costL cS ts
  | [] => by simp [jsonOfSchemaList, Json.costList, costL]
  | t :: ts => by simp [jsonOfSchemaList, Json.costList, costL, costList_schemas ts, cS]

theorem costList_fields : ∀ fs : List SField, Json.costList (jsonOfFields fs) = costL cF fs
  | [] => by simp [jsonOfFields, Json.costList, costL]
  | .mk n t :: fs => by
    simp only [jsonOfFields, Json.costList, costL, costList_fields fs, cF, cS, Json.cost,
      Json.costKvs, ident_len]
    omega

theorem costList_variants : ∀ vs : List SVariant, Json.costList (jsonOfVariants vs) = costL cV vs
  | [] => by simp [jsonOfVariants, Json.costList, costL]
  | .mk n d :: vs => by
    simp only [jsonOfVariants, Json.costList, costL, costList_variants vs, cV, cD, Json.cost,
      Json.costKvs, ident_len]
    omega

theorem cS_option {t : Schema} : cS (.option t) = 8 + cS t := by
  simp only [cS, jsonOfSchema, Json.cost, Json.costKvs, ident_len]
  omega
theorem cS_seq {t : Schema} : cS (.seq t) = 5 + cS t := by
  simp only [cS, jsonOfSchema, Json.cost, Json.costKvs, ident_len]
  omega
theorem cS_tuple {ts : List Schema} : cS (.tuple ts) = 8 + costL cS ts := by
  simp only [cS, jsonOfSchema, Json.cost, Json.costKvs, costList_schemas, ident_len]
  omega
theorem cS_map {k v : Schema} : cS (.map k v) = 14 + cS k + cS v := by
  simp only [cS, jsonOfSchema, Json.cost, Json.costKvs, ident_len]
  omega
theorem cS_struct {n : Name} {d : SData} : cS (.struct n d) = 20 + n.length + cD d := by
  simp only [cS, cD, jsonOfSchema, Json.cost, Json.costKvs, ident_len]
  omega
theorem cS_enum {n : Name} {vs : List SVariant} :
    cS (.enum n vs) = 23 + n.length + costL cV vs := by
  simp only [cS, jsonOfSchema, Json.cost, Json.costKvs, costList_variants, ident_len]
  omega
/-- the twenty kinds without payload, in one evaluation. -/
theorem cS_leaf (s : Schema) (h : schemaOfUnitKind s.kind = some s) : cS s ≤ 14 := by
  have := (by decide +kernel :
      ∀ k ∈ allKinds, (match schemaOfUnitKind k with | some s => cS s | none => 0) ≤ 14)
    s.kind (Dyn.mem_allKinds _)
  rwa [h] at this
theorem cD_unit : cD .unit = 5 := by decide
theorem cD_newtype {t : Schema} : cD (.newtype t) = 9 + cS t := by
  simp only [cS, cD, jsonOfData, Json.cost, Json.costKvs, ident_len]
  omega
theorem cD_tuple {ts : List Schema} : cD (.tuple ts) = 8 + costL cS ts := by
  simp only [cD, jsonOfData, Json.cost, Json.costKvs, costList_schemas, ident_len]
  omega
theorem cD_struct {fs : List SField} : cD (.struct fs) = 9 + costL cF fs := by
  simp only [cD, jsonOfData, Json.cost, Json.costKvs, costList_fields, ident_len]
  omega

end Postcard.DynA

namespace Postcard.Dyn
open Postcard.DynA

/-! One invariant carries three facts through `decOwned`: the fuel (`bs.length + 1`) is never
exhausted, because every nested node consumes at least one byte, and the `Value` that
`serde_json::to_value` builds for the decoded schema costs at most 14 per consumed byte. -/

/-- written without subtraction, for `omega`. -/
def Fed {α : Type} (c : α → Nat) (x : R (α × List Byte)) (len : Nat) : Prop :=
  x ≠ .error .panic ∧
    ∀ a r, x = .ok (a, r) → r.length + 1 ≤ len ∧ c a + 14 * r.length ≤ 14 * len

theorem Fed_ok {α : Type} {c : α → Nat} {a : α} {r : List Byte} {len : Nat}
    (h1 : r.length + 1 ≤ len) (h2 : c a + 14 * r.length ≤ 14 * len) : Fed c (.ok (a, r)) len :=
  ⟨by simp, by intro a' r' h'; cases h'; exact ⟨h1, h2⟩⟩

theorem Fed_leaf {α : Type} {c : α → Nat} {a : α} {r : List Byte} {len : Nat}
    (h1 : r.length < len) (h2 : c a ≤ 14) : Fed c (.ok (a, r)) len :=
  Fed_ok h1 (by omega)

/-- a node costing `K` on top of what `h` bounds, paid for by the bytes between `len` and `m`. -/
theorem Fed_ok_of {α β : Type} {c : α → Nat} {c' : β → Nat} {a : α} {b : β} {r : List Byte}
    {K m len : Nat} (e : c' b = K + c a) (h : r.length + 1 ≤ m ∧ c a + 14 * r.length ≤ 14 * m)
    (hK : K + 14 * m ≤ 14 * len) : Fed c' (.ok (b, r)) len :=
  Fed_ok (by omega) (by omega)

theorem Fed_err {α : Type} {c : α → Nat} {e : Err} {len : Nat} (h : e ≠ .panic) :
    Fed c (.error e : R (α × List Byte)) len :=
  ⟨by simp [h], by intro a r h'; cases h'⟩

theorem err_np {α β : Type} {x : R α} {e : Err} (hx : x ≠ .error .panic) (heq : x = .error e) :
    (.error e : R β) ≠ .error .panic :=
  fun h => hx (by cases h; exact heq)

theorem Fed_err_of {α β : Type} {c : β → Nat} {x : R α} {e : Err} {len : Nat}
    (hx : x ≠ .error .panic) (heq : x = .error e) : Fed c (.error e : R (β × List Byte)) len :=
  Fed_err fun h => hx (h ▸ heq)

theorem decName_np (bs : List Byte) : decName bs ≠ .error .panic := by
  unfold decName
  split
  · next e heq => exact err_np (decVarint_np 64 bs) heq
  · split
    · next e heq => exact err_np (takeN_np _ _) heq
    · split <;> simp

theorem decName_len {bs r : List Byte} {n : Name} (h : decName bs = .ok (n, r)) :
    r.length + 1 + n.length ≤ bs.length := by
  unfold decName at h
  split at h
  · cases h
  · next sz r0 hv =>
    have h0 := decVarint_pos hv
    split at h
    · cases h
    · next s r1 ht =>
      obtain ⟨rfl, rfl⟩ := takeN_ok_iff.1 ht
      split at h
      · simp at h; obtain ⟨rfl, rfl⟩ := h
        simp at h0 ⊢; omega
      · cases h

def Good {α : Type} (fuel : Nat) (c : α → Nat) (f : List Byte → R (α × List Byte)) : Prop :=
  ∀ bs, bs.length < fuel → Fed c (f bs) bs.length

theorem decElems_good {α : Type} {fuel : Nat} {c : α → Nat}
    {f : List Byte → R (α × List Byte)} (hf : Good fuel c f) :
    ∀ (n : Nat) (bs : List Byte), bs.length < fuel →
      decElems f n bs ≠ .error .panic ∧ ∀ xs r, decElems f n bs = .ok (xs, r) →
        r.length ≤ bs.length ∧ costL c xs + 14 * r.length ≤ 14 * bs.length
  | 0, bs, _ => ⟨by simp [decElems], by
      intro xs r h; simp [decElems] at h; obtain ⟨rfl, rfl⟩ := h; simp [costL]⟩
  | n + 1, bs, hbs => by
    unfold decElems
    have h1 := hf bs hbs
    split
    · next e heq => exact ⟨err_np h1.1 heq, by intro xs r h; cases h⟩
    · next v r heq =>
      have hr := h1.2 _ _ heq
      have h2 := decElems_good hf n r (by omega)
      split
      · next e heq2 => exact ⟨err_np h2.1 heq2, by intro xs r h; cases h⟩
      · next vs r' heq2 =>
        have := h2.2 _ _ heq2
        refine ⟨by simp, ?_⟩
        intro xs r'' h; simp at h; obtain ⟨rfl, rfl⟩ := h
        simp only [costL]
        omega

/-- a `Box<[T]>`: the count takes a byte. -/
theorem decBoxSlice_good {α : Type} {fuel : Nat} {c : α → Nat}
    {f : List Byte → R (α × List Byte)} (hf : Good fuel c f) :
    Good fuel (costL c) (decBoxSlice f) := fun bs hbs => by
  unfold decBoxSlice
  split
  · next e heq => exact Fed_err_of (decVarint_np 64 bs) heq
  · next n r heq =>
    have hr := decVarint_pos heq
    have h := decElems_good hf n r (by omega)
    refine ⟨h.1, fun xs r' he => ?_⟩
    have := h.2 xs r' he
    exact ⟨by omega, by omega⟩

/-- closes `Fed c' (match x with | .error e => .error e | .ok (a, r) => .ok (g a, r)) len` from
`h : Fed c x m` and `eq : c' (g a) = K + c a` (`Fed_ok_of`).  A macro: the matcher of a lemma
stating this `match` is polymorphic in `α` and does not unify with the model's matchers over closed
types. -/
syntax "fed_map " term " using " term : tactic
macro_rules
  | `(tactic| fed_map $h using $eq) =>
    `(tactic| (split
               · next _ heq => exact Fed_err_of ($h).1 heq
               · next _ _ heq => exact Fed_ok_of $eq (($h).2 _ _ heq) (by omega)))

theorem decField_good {fuel : Nat} {f : List Byte → R (Schema × List Byte)}
    (hf : Good fuel cS f) : Good fuel cF (decField f) := fun bs hbs => by
  unfold decField
  split
  · next e heq => exact Fed_err_of (decName_np bs) heq
  · next n r heq =>
    have hr := decName_len heq
    fed_map (hf r (by omega)) using rfl

theorem decVariantEntry_good {fuel : Nat} {f : List Byte → R (SData × List Byte)}
    (hf : Good fuel cD f) : Good fuel cV (decVariantEntry f) := fun bs hbs => by
  unfold decVariantEntry
  split
  · next e heq => exact Fed_err_of (decName_np bs) heq
  · next n r heq =>
    have hr := decName_len heq
    fed_map (hf r (by omega)) using rfl

theorem decOwned_step (fuel : Nat) (ih1 : Good fuel cS (decOwned fuel))
    (ih2 : Good fuel cD (decOwnedData fuel)) : Good (fuel + 1) cS (decOwned (fuel + 1)) :=
  fun bs hbs => by
  rw [decOwned]
  split
  · next e heq => exact Fed_err_of (decVarint_np 32 bs) heq
  · next idx r heq =>
    have hr := decVarint_pos heq
    have hrf : r.length < fuel := by omega
    -- the arms of `decOwned` in source order: unknown tag, 18 kinds without payload, Option, Unit,
    -- Seq, Tuple, Map, Struct, Enum, Schema
    split
    case h_1 => exact Fed_err (by decide)
    case h_20 => fed_map (ih1 r hrf) using cS_option
    case h_22 => fed_map (ih1 r hrf) using cS_seq
    case h_23 => fed_map (decBoxSlice_good ih1 r hrf) using cS_tuple
    case h_24 =>
      have h1 := ih1 r hrf
      split
      · next e heq1 => exact Fed_err_of h1.1 heq1
      · next k r' heq1 =>
        have hk := h1.2 _ _ heq1
        fed_map (ih1 r' (by omega)) using cS_map
    case h_25 =>
      split
      · next e heq1 => exact Fed_err_of (decName_np r) heq1
      · next n r' heq1 =>
        have hn := decName_len heq1
        fed_map (ih2 r' (by omega)) using cS_struct
    case h_26 =>
      split
      · next e heq1 => exact Fed_err_of (decName_np r) heq1
      · next n r' heq1 =>
        have hn := decName_len heq1
        fed_map (decBoxSlice_good (decVariantEntry_good ih2) r' (by omega)) using cS_enum
    all_goals exact Fed_leaf hr (cS_leaf _ rfl)

theorem decOwnedData_step (fuel : Nat) (ih1 : Good fuel cS (decOwned fuel)) :
    Good (fuel + 1) cD (decOwnedData (fuel + 1)) := fun bs hbs => by
  rw [decOwnedData]
  split
  · next e heq => exact Fed_err_of (decVarint_np 32 bs) heq
  · next idx r heq =>
    have hr := decVarint_pos heq
    have hrf : r.length < fuel := by omega
    split
    case h_1 => exact Fed_err (by decide)
    case h_2 => exact Fed_leaf hr (Nat.le_trans (Nat.le_of_eq cD_unit) (by decide))
    case h_3 => fed_map (ih1 r hrf) using cD_newtype
    case h_4 => fed_map (decBoxSlice_good ih1 r hrf) using cD_tuple
    case h_5 => fed_map (decBoxSlice_good (decField_good ih1) r hrf) using cD_struct

theorem decOwned_good : ∀ fuel, Good fuel cS (decOwned fuel) ∧ Good fuel cD (decOwnedData fuel)
  | 0 => ⟨fun bs h => by omega, fun bs h => by omega⟩
  | fuel + 1 =>
    have ih := decOwned_good fuel
    ⟨decOwned_step fuel ih.1 ih.2, decOwnedData_step fuel ih.1⟩

theorem decOwnedBytes_fed (bs : List Byte) : Fed cS (decOwnedBytes bs) bs.length :=
  (decOwned_good (bs.length + 1)).1 bs (Nat.lt_succ_self _)

theorem decOwnedBytes_rest_le {bs r : List Byte} {s : Schema} (h : decOwnedBytes bs = .ok (s, r)) :
    r.length ≤ bs.length :=
  Nat.le_of_succ_le ((decOwnedBytes_fed bs).2 s r h).1

end Postcard.Dyn

namespace Postcard.DynA
open Postcard.Dyn

/-- `postcard::take_from_bytes::<OwnedDataModelType>` then `serde_json::to_value`: the `Value`
built costs at most 14 per consumed byte, and at least one byte is consumed. -/
theorem decOwnedBytes_cost {bs r : List Byte} {s : Schema} (h : decOwnedBytes bs = .ok (s, r)) :
    r.length + 1 ≤ bs.length ∧ (jsonOfSchema s).cost ≤ 14 * (bs.length - r.length) := by
  have := (decOwnedBytes_fed bs).2 s r h
  exact ⟨this.1, by have := this.2; unfold cS at this; omega⟩

end Postcard.DynA
