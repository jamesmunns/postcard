import Postcard.Model.SlidingBuffer
namespace Postcard

theorem slotsBelow_append : ∀ {xs : List (Nat × Nat)} {lo c : Nat} (ct : Nat),
    slotsBelow xs lo c → slotsBelow (xs ++ [(c, ct)]) lo (c + ct)
  | [], _, _, _, h => ⟨h, Nat.le_refl _⟩
  | _ :: _, _, _, ct, h => ⟨h.1, slotsBelow_append ct h.2⟩

theorem slotsBelow_le : ∀ {xs : List (Nat × Nat)} {lo bound : Nat}, slotsBelow xs lo bound →
    lo ≤ bound
  | [], _, _, h => h
  | _ :: _, _, _, h => Nat.le_trans h.1 (Nat.le_of_add_right_le (slotsBelow_le h.2))

theorem slotsBelow_mem : ∀ {xs : List (Nat × Nat)} {lo bound : Nat}, slotsBelow xs lo bound →
    ∀ sl ∈ xs, lo ≤ sl.1 ∧ sl.1 + sl.2 ≤ bound
  | _ :: _, _, _, h, _, .head _ => ⟨h.1, slotsBelow_le h.2⟩
  | _ :: _, _, _, h, sl, .tail _ hm =>
    have ⟨h1, h2⟩ := slotsBelow_mem h.2 sl hm
    ⟨Nat.le_trans h.1 (Nat.le_of_add_right_le h1), h2⟩

theorem slotsBelow_pairwise : ∀ {xs : List (Nat × Nat)} {lo bound : Nat}, slotsBelow xs lo bound →
    xs.Pairwise (fun a b => a.1 + a.2 ≤ b.1)
  | [], _, _, _ => .nil
  | _ :: _, _, _, h => .cons (fun b hb => (slotsBelow_mem h.2 b hb).1) (slotsBelow_pairwise h.2)

theorem SBuf.cap_step (s : SBuf) (ct : Nat) (ok : Bool) : (s.tryTakeN ct ok).1.cap = s.cap := by
  unfold SBuf.tryTakeN
  split <;> rfl

theorem SBuf.cap_run : ∀ (ops : List (Nat × Bool)) (s : SBuf), (s.run ops).cap = s.cap
  | [], _ => rfl
  | (ct, ok) :: rest, s => (SBuf.cap_run rest _).trans (SBuf.cap_step s ct ok)

end Postcard
