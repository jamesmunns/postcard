import Postcard.Model.De
/-
  Postcard.Lemmas.Bytes — the two byte-string primitives every layer shares:
  fixed-width little-endian rendering (`leBytes` / `ofLeBytes`: floats, fixint,
  CRC checksums, FNV digests) and the slice read `takeN`; before them, a number `q * X + y`
  and its leading digits `q` (varint groups, UTF-8 continuation bytes).
-/
namespace Postcard

theorem mul_add_div {q y X : Nat} (hy : y < X) : (q * X + y) / X = q := by
  rw [Nat.add_comm, Nat.add_mul_div_right _ _ (Nat.zero_lt_of_lt hy), Nat.div_eq_of_lt hy,
    Nat.zero_add]

theorem mul_add_mod {q y X : Nat} (hy : y < X) : (q * X + y) % X = y := by
  rw [Nat.add_comm, Nat.add_mul_mod_self_right, Nat.mod_eq_of_lt hy]

theorem mul_add_lt_iff {q y X : Nat} (B : Nat) (hy : y < X) : q * X + y < B * X ↔ q < B := by
  rw [← Nat.div_lt_iff_lt_mul (Nat.zero_lt_of_lt hy), mul_add_div hy]

theorem mul_le_mul_add_iff {q y X : Nat} (B : Nat) (hy : y < X) : B * X ≤ q * X + y ↔ B ≤ q := by
  rw [← Nat.le_div_iff_mul_le (Nat.zero_lt_of_lt hy), mul_add_div hy]

/-- a byte `k + d` (flag or lead bits `k`, payload `d` below the room `B` they leave). -/
theorem toNat_ofNat_add {k d : Nat} (B : Nat) (hd : d < B) (hB : k + B ≤ 256 := by decide) :
    (UInt8.ofNat (k + d)).toNat = k + d :=
  UInt8.toNat_ofNat_of_lt' (Nat.lt_of_lt_of_le (Nat.add_lt_add_left hd k) hB)

theorem leBytes_length (k n : Nat) : (leBytes k n).length = k := by
  induction k generalizing n with
  | zero => rfl
  | succ k ih => simp [leBytes, ih]

theorem ofLeBytes_lt (bs : List Byte) : ofLeBytes bs < 256 ^ bs.length := by
  induction bs with
  | nil => exact Nat.one_pos
  | cons b bs ih =>
    rw [ofLeBytes, List.length_cons, Nat.pow_succ, Nat.add_comm, Nat.mul_comm 256]
    exact (mul_add_lt_iff _ b.toNat_lt).2 ih

theorem ofLeBytes_concat (q : List Byte) (l : Byte) :
    ofLeBytes (q ++ [l]) = ofLeBytes q + 256 ^ q.length * l.toNat := by
  induction q with
  | nil => simp [ofLeBytes]
  | cons b q ih =>
    simp only [List.cons_append, ofLeBytes, ih, List.length_cons, Nat.pow_succ]
    generalize 256 ^ q.length = X
    simp [Nat.mul_add, Nat.mul_assoc, Nat.mul_left_comm, Nat.add_assoc]

/-- `n % 256 ^ k` is what `as uN` keeps. -/
theorem ofLeBytes_leBytes_mod (k n : Nat) : ofLeBytes (leBytes k n) = n % 256 ^ k := by
  induction k generalizing n with
  | zero => simp [leBytes, ofLeBytes, Nat.mod_one]
  | succ k ih =>
    simp only [leBytes, ofLeBytes, ih]
    rw [UInt8.toNat_ofNat_of_lt' (Nat.mod_lt n (by decide)), Nat.pow_succ,
      Nat.mul_comm (256 ^ k) 256, Nat.mod_mul]

theorem ofLeBytes_leBytes {k n : Nat} (h : n < 256 ^ k) : ofLeBytes (leBytes k n) = n := by
  rw [ofLeBytes_leBytes_mod, Nat.mod_eq_of_lt h]

theorem leBytes_ofLeBytes (bs : List Byte) : leBytes bs.length (ofLeBytes bs) = bs := by
  induction bs with
  | nil => rfl
  | cons b bs ih =>
    have hb := UInt8.toNat_lt b
    simp only [ofLeBytes, List.length_cons, leBytes]
    rw [Nat.add_mul_mod_self_left, Nat.mod_eq_of_lt hb, Nat.add_mul_div_left _ _ (by decide),
      Nat.div_eq_of_lt hb, Nat.zero_add, ih, UInt8.ofNat_toNat]

theorem ofLeBytes_inj {a b : List Byte} (hl : a.length = b.length)
    (h : ofLeBytes a = ofLeBytes b) : a = b := by
  rw [← leBytes_ofLeBytes a, ← leBytes_ofLeBytes b, hl, h]

/-- a flat key/value list holds one pair more. -/
theorem length_pair_div_two {α : Type} (x y : α) (l : List α) :
    (x :: y :: l).length / 2 = l.length / 2 + 1 :=
  Nat.add_div_right l.length Nat.two_pos

theorem takeN_ok_iff {n : Nat} {bs s r : List Byte} :
    takeN n bs = .ok (s, r) ↔ bs = s ++ r ∧ s.length = n := by
  unfold takeN
  constructor
  · intro h
    split at h
    · cases h
    · next hn =>
      cases h
      exact ⟨(List.take_append_drop n bs).symm, List.length_take_of_le (Nat.le_of_not_lt hn)⟩
  · rintro ⟨rfl, rfl⟩
    rw [if_neg (by simp), List.take_left', List.drop_left']
    all_goals rfl

theorem takeN_append (s r : List Byte) : takeN s.length (s ++ r) = .ok (s, r) :=
  takeN_ok_iff.2 ⟨rfl, rfl⟩

theorem takeN_error_iff {n : Nat} {bs : List Byte} {e : Err} :
    takeN n bs = .error e ↔ e = .unexpectedEnd ∧ bs.length < n := by
  unfold takeN
  split
  · next h => simp [h, eq_comm]
  · next h => simp [h]

theorem takeN_short {n : Nat} {bs : List Byte} (h : bs.length < n) :
    takeN n bs = .error .unexpectedEnd :=
  takeN_error_iff.2 ⟨rfl, h⟩

theorem takeN_np (n : Nat) (bs : List Byte) : takeN n bs ≠ .error .panic :=
  fun h => nomatch (takeN_error_iff.1 h).1

theorem exists_ok_pair {ε α β : Type} {a : α} {b : β} {Q : α → β → Prop} :
    (∃ a' b', (Except.ok (a, b) : Except ε (α × β)) = .ok (a', b') ∧ Q a' b') ↔ Q a b :=
  ⟨fun ⟨_, _, h, q⟩ => by cases h; exact q, fun q => ⟨a, b, rfl, q⟩⟩

end Postcard
