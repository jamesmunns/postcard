import Postcard.Model.Cobs
import Postcard.Spec.Cobs
import Postcard.Lemmas.Storage
namespace Postcard
open Spec

/-- induction along the blocks of a frame body: the recursion of `cobsDecodeAux`
without its fuel. -/
theorem blockInduction {P : List Byte → Prop} (nil : P [])
    (block : ∀ c rest, P (rest.drop (c.toNat - 1)) → P (c :: rest)) : ∀ f, P f
  | [] => nil
  | c :: rest => block c rest (blockInduction nil block _)
termination_by f => f.length
decreasing_by simp only [List.length_drop, List.length_cons]; omega

theorem cobsDecodeAux_fuel (f : List Byte) : ∀ n, f.length < n →
    cobsDecodeAux n f = cobsDecodeAux (f.length + 1) f := by
  induction f using blockInduction with
  | nil => intro n h; cases n with | zero => omega | succ n => rfl
  | block c rest ih =>
    intro n h
    have hl : (rest.drop (c.toNat - 1)).length ≤ rest.length := by simp
    cases n with
    | zero => omega
    | succ n =>
      simp only [List.length_cons] at h
      simp only [cobsDecodeAux, List.length_cons]
      rw [ih n (by omega), ih (rest.length + 1) (by omega)]

theorem cobsDecode_nil : cobsDecode [] = some [] := rfl

theorem cobsDecode_cons (c : Byte) (rest : List Byte) :
    cobsDecode (c :: rest) =
      if c = 0 then none
      else if rest.length < c.toNat - 1 then none
      else
        match cobsDecode (rest.drop (c.toNat - 1)) with
        | none => none
        | some out => some (rest.take (c.toNat - 1) ++
            (if c ≠ 0xFF ∧ rest.drop (c.toNat - 1) ≠ [] then [0] else []) ++ out) := by
  have hl : (rest.drop (c.toNat - 1)).length ≤ rest.length := by simp
  simp only [cobsDecode, cobsDecodeAux, List.length_cons]
  rw [cobsDecodeAux_fuel _ (rest.length + 1) (by omega)]
  rfl

theorem cobsDecode_block (c : Byte) (data tl : List Byte) (hlen : c.toNat = data.length + 1) :
    cobsDecode (c :: (data ++ tl)) =
      match cobsDecode tl with
      | none => none
      | some out => some (data ++ (if c ≠ 0xFF ∧ tl ≠ [] then [0] else []) ++ out) := by
  have hc : c ≠ 0 := fun h => by rw [h] at hlen; cases hlen
  rw [cobsDecode_cons, if_neg hc, hlen, Nat.add_sub_cancel, if_neg (by simp), List.drop_left' rfl,
    List.take_left' rfl]

/-- a block gives back its data bytes and at most one zero for its code byte. -/
theorem cobsDecode_len_le {f p : List Byte} (h : cobsDecode f = some p) : p.length ≤ f.length := by
  induction f using blockInduction generalizing p with
  | nil => cases h; exact Nat.le_refl 0
  | block c rest ih =>
    rw [cobsDecode_cons] at h
    split at h
    · cases h
    split at h
    · cases h
    split at h
    · cases h
    · next hk out hd =>
      cases h
      have := ih hd
      simp only [List.length_append, List.length_take, List.length_drop, List.length_cons] at this ⊢
      split <;> simp only [List.length_cons, List.length_nil] <;> omega

private theorem code_toNat {n : Nat} (h : n < 256) : (UInt8.ofNat n).toNat = n :=
  UInt8.toNat_ofNat_of_lt' h

private theorem code_ne_zero {n : Nat} (h : n + 1 < 256) : UInt8.ofNat (n + 1) ≠ 0 := by
  intro hc
  have := congrArg UInt8.toNat hc
  rw [code_toNat h] at this
  simp at this

private theorem code_ne_ff {n : Nat} (h : n + 1 < 255) : UInt8.ofNat (n + 1) ≠ 0xFF := by
  intro hc
  have := congrArg UInt8.toNat hc
  rw [code_toNat (by omega)] at this
  simp at this
  omega

theorem cobsEncodeGo_ne_nil (run m : List Byte) : cobsEncodeGo run m ≠ [] := by
  fun_induction cobsEncodeGo run m
  case case4 ih => exact ih
  all_goals exact List.cons_ne_nil _ _

theorem cobsEncode_ne_nil (m : List Byte) : cobsEncode m ≠ [] := cobsEncodeGo_ne_nil [] m

theorem cobsEncodeGo_no_zero (run m : List Byte) (hl : run.length ≤ 253)
    (hz : ∀ b ∈ run, b ≠ 0) : ∀ b ∈ cobsEncodeGo run m, b ≠ 0 := by
  fun_induction cobsEncodeGo run m with
  | case1 run => -- the message ends: `code :: run`
    exact List.forall_mem_cons.2 ⟨code_ne_zero (by omega), hz⟩
  | case2 run m ih => -- a zero closes the block: `code :: run ++ …`
    rw [List.cons_append]
    exact List.forall_mem_cons.2 ⟨code_ne_zero (by omega),
      List.forall_mem_append.2 ⟨hz, ih (Nat.zero_le _) (fun _ h => nomatch h)⟩⟩
  | case3 run a m ha h253 ih => -- the 254th non-zero byte closes it: `0xFF :: (run ++ [a]) ++ …`
    rw [List.cons_append]
    exact List.forall_mem_cons.2 ⟨by decide, List.forall_mem_append.2
      ⟨List.forall_mem_append.2 ⟨hz, List.forall_mem_singleton.2 ha⟩,
        ih (Nat.zero_le _) (fun _ h => nomatch h)⟩⟩
  | case4 run a m ha h253 ih => -- the run grows by `a`
    exact ih (by simp; omega) (List.forall_mem_append.2 ⟨hz, List.forall_mem_singleton.2 ha⟩)

theorem frame_no_interior_zero (m : List Byte) : ∀ b ∈ cobsEncode m, b ≠ 0 :=
  cobsEncodeGo_no_zero [] m (Nat.zero_le _) (fun _ h => nomatch h)

theorem cobsEncodeGo_length (run m : List Byte) :
    (cobsEncodeGo run m).length = run.length + m.length + 1 + fullBlocksGo run.length m := by
  fun_induction cobsEncodeGo run m
  all_goals simp_all only [fullBlocksGo, List.length_cons, List.length_append, List.length_nil,
    Nat.zero_add, if_true, if_false]
  all_goals omega

/-- a full block every 254 bytes at most, and exactly that in a zero-free message
(in multiplied form, which keeps `omega` away from division). -/
theorem fullBlocksGo_bounds (k : Nat) (m : List Byte) (hk : k ≤ 253) :
    254 * fullBlocksGo k m ≤ k + m.length ∧
    ((∀ b ∈ m, b ≠ 0) → k + m.length < 254 * fullBlocksGo k m + 254) := by
  fun_induction fullBlocksGo k m with
  | case1 k => exact ⟨Nat.zero_le _, fun _ => by simp only [List.length_nil]; omega⟩
  | case2 k m ih =>
    have := (ih (Nat.zero_le _)).1
    exact ⟨by simp only [List.length_cons]; omega,
      fun hz => absurd rfl (hz 0 (List.mem_cons_self ..))⟩
  | case3 b m _ ih | case4 k b m _ _ ih =>
    obtain ⟨h1, h2⟩ := ih (by omega)
    simp only [List.length_cons, List.forall_mem_cons]
    exact ⟨by omega, fun hz => by have := h2 hz.2; omega⟩

theorem cobsDecode_encodeGo (run m : List Byte) (hl : run.length ≤ 253) :
    cobsDecode (cobsEncodeGo run m) = some (run ++ m) := by
  fun_induction cobsEncodeGo run m with
  | case1 run =>
    have h := cobsDecode_block (UInt8.ofNat (run.length + 1)) run [] (code_toNat (by omega))
    simp only [List.append_nil, cobsDecode_nil] at h
    rw [h]
    simp
  | case2 run m ih => -- a block closed by a zero: the decoder puts the zero back
    rw [List.cons_append, cobsDecode_block _ run _ (code_toNat (by omega)), ih (Nat.zero_le _),
      if_pos ⟨code_ne_ff (by omega), cobsEncodeGo_ne_nil [] m⟩]
    simp
  | case3 run a m ha h253 ih => -- a 0xFF block: no zero is implied
    rw [List.cons_append, cobsDecode_block _ (run ++ [a]) _ (by simp [h253]), ih (Nat.zero_le _)]
    simp
  | case4 run a m ha h253 ih =>
    rw [ih (by simp; omega)]
    simp

theorem cobsDecode_encode (m : List Byte) : cobsDecode (cobsEncode m) = some m :=
  cobsDecode_encodeGo [] m (Nat.zero_le _)

private theorem set_append_cons {α} (done : List α) (ph x : α) (run : List α) :
    (done ++ ph :: run).set done.length x = done ++ x :: run := by
  rw [List.set_append_right _ _ (Nat.le_refl _), Nat.sub_self, List.set_cons_zero]

/-- one `push` from the state "code byte at `c`, `k` data bytes in the open block":
the `u8` counters stay below 256, so the `% 256` of the model never fires. -/
theorem EncSt.push_at {c k : Nat} (hk : k ≤ 253) (a : Byte) :
    (EncSt.mk c (k + 1) (k + 1)).push a =
      if a = 0 then (⟨c + (k + 1), 1, 1⟩, .modifyFromStartAndSkip c (UInt8.ofNat (k + 1)))
      else if k = 253 then (⟨c + 255, 1, 1⟩, .modifyFromStartAndPushAndSkip c 0xFF a)
      else (⟨c, k + 2, k + 2⟩, .addSingle a) := by
  unfold EncSt.push
  by_cases ha : a = 0
  · simp only [if_pos ha]
  · have h1 : (k + 1 + 1) % 256 = k + 2 := by omega
    simp only [if_neg ha, h1]
    by_cases hk' : k = 253
    · subst hk'; rfl
    · have h2 : ¬ (255 = k + 2) := by omega
      simp only [if_neg hk', if_neg h2]

theorem EncSt.reach (bs : List Byte) : ∀ c k, k ≤ 253 →
    ∃ c' k', k' ≤ 253 ∧
      bs.foldl (fun e b => (e.push b).1) (EncSt.mk c (k + 1) (k + 1)) = ⟨c', k' + 1, k' + 1⟩ := by
  induction bs with
  | nil => exact fun c k hk => ⟨c, k, hk, rfl⟩
  | cons b bs ih =>
    intro c k hk
    rw [List.foldl_cons, EncSt.push_at hk]
    split
    · exact ih _ 0 (Nat.zero_le _)
    · split
      · exact ih _ 0 (Nat.zero_le _)
      · exact ih _ (k + 1) (by omega)

/-- `Writing out m log e`: a prefix of the frame `out` has been written, the message
bytes `m` are still to come.  The log is `done ++ ph :: run`, `ph` being the slot kept
for the code byte of the open block `run`; the encoder state `e` points at that slot. -/
def Writing (out m log : List Byte) (e : EncSt) : Prop :=
  ∃ done run ph, log = done ++ ph :: run ∧ run.length ≤ 253 ∧
    e = ⟨done.length, run.length + 1, run.length + 1⟩ ∧ done ++ cobsEncodeGo run m ++ [0] = out

theorem Writing.length_lt {out m log : List Byte} {e : EncSt} (h : Writing out m log e) :
    log.length < out.length := by
  obtain ⟨done, run, ph, rfl, _, _, rfl⟩ := h
  have := cobsEncodeGo_length run m
  simp only [List.length_append, List.length_cons, List.length_nil]
  omega

section flavour
variable {σ : Type} {F : Flavor σ (List Byte)} {L : LawfulIdx F}

/-- One `try_push` of the COBS modifier, whatever the storage does: the code byte of a closed block
is patched (inside the log, so `IndexMut` cannot fail), then the bytes `ws` are pushed one by one;
if they all go in, the state is `Writing` again. -/
theorem Writing.push (R : L.Refusing) {out m : List Byte} {a : Byte} {s : σ} {e : EncSt}
    (h : Writing out (a :: m) (L.log s) e) :
    ∃ s1 ws e', (∀ n, R.valid n s → R.valid n s1) ∧ (L.log s1).length = (L.log s).length ∧
      Writing out m (L.log s1 ++ ws) e' ∧
      Cobs.push F (s, e) a =
        (((defaultExtend F.tryPush s1 ws).1, e'), (defaultExtend F.tryPush s1 ws).2) := by
  obtain ⟨done, run, ph, hlog, hl, rfl, rfl⟩ := h
  have hidx : done.length < (L.log s).length := by rw [hlog]; simp
  by_cases ha : a = 0
  · -- a zero byte closes the block
    subst ha
    obtain ⟨s1, h1, hl1, hv1⟩ := R.setAt_ok s (UInt8.ofNat (run.length + 1)) hidx
    refine ⟨s1, [0], ⟨done.length + (run.length + 1), 1, 1⟩, hv1, by rw [hl1, List.length_set],
      ⟨done ++ UInt8.ofNat (run.length + 1) :: run, [], 0, ?_, Nat.zero_le _, by simp,
        by simp [cobsEncodeGo]⟩, ?_⟩
    · rw [hl1, hlog, set_append_cons]
    · rcases hq : F.tryPush s1 0 with ⟨s2, r⟩
      simp only [Cobs.push, EncSt.push_at hl, if_true, h1, defaultExtend, hq]
      cases r <;> rfl
  · by_cases h253 : run.length = 253
    · -- the 254th non-zero byte closes a 0xFF block
      obtain ⟨s1, h1, hl1, hv1⟩ := R.setAt_ok s 0xFF hidx
      refine ⟨s1, [a, 0], ⟨done.length + 255, 1, 1⟩, hv1, by rw [hl1, List.length_set],
        ⟨done ++ 0xFF :: (run ++ [a]), [], 0, ?_, Nat.zero_le _, by simp [h253],
          by simp [cobsEncodeGo, ha, h253]⟩, ?_⟩
      · rw [hl1, hlog, set_append_cons]; simp
      · rcases hq : F.tryPush s1 a with ⟨s2, r⟩
        cases r with
        | some err =>
          simp only [Cobs.push, EncSt.push_at hl, if_neg ha, if_pos h253, h1, defaultExtend, hq]
        | none =>
          rcases hq2 : F.tryPush s2 0 with ⟨s3, r⟩
          simp only [Cobs.push, EncSt.push_at hl, if_neg ha, if_pos h253, h1, defaultExtend,
            hq, hq2]
          cases r <;> rfl
    · -- an ordinary data byte
      refine ⟨s, [a], ⟨done.length, run.length + 2, run.length + 2⟩, fun _ hv => hv, rfl,
        ⟨done, run ++ [a], ph, by rw [hlog]; simp, by simp; omega, by simp,
          by simp [cobsEncodeGo, ha, h253]⟩, ?_⟩
      rcases hq : F.tryPush s a with ⟨s2, r⟩
      simp only [Cobs.push, EncSt.push_at hl, if_neg ha, if_neg h253, defaultExtend, hq]
      cases r <;> rfl

theorem Writing.fin (R : L.Refusing) {out : List Byte} {s : σ} {e : EncSt}
    (h : Writing out [] (L.log s) e) :
    ∃ s1, (∀ n, R.valid n s → R.valid n s1) ∧ (L.log s1).length = (L.log s).length ∧
      L.log s1 ++ [0] = out ∧
      Cobs.fin F (s, e) =
        match F.tryPush s1 0 with
        | (s2, some err) => ((s2, e), .error err)
        | (s2, none) => (((F.finalize s2).1, e), (F.finalize s2).2) := by
  obtain ⟨done, run, ph, hlog, hl, rfl, rfl⟩ := h
  have hidx : done.length < (L.log s).length := by rw [hlog]; simp
  obtain ⟨s1, h1, hl1, hv1⟩ := R.setAt_ok s (UInt8.ofNat (run.length + 1)) hidx
  refine ⟨s1, hv1, by rw [hl1, List.length_set], ?_, ?_⟩
  · rw [hl1, hlog, set_append_cons]; simp [cobsEncodeGo]
  · simp only [Cobs.fin, EncSt.finalize, h1]
    rfl

/-- the frame `out` is being written, and the storage may be asked for the `n` bytes that are
missing of it. -/
def LawfulIdx.Refusing.Inv (R : L.Refusing) (out m : List Byte) (st : σ × EncSt) : Prop :=
  ∃ n, (L.log st.1).length + n = out.length ∧ R.valid n st.1 ∧ Writing out m (L.log st.1) st.2

theorem cobs_push_refusing (R : L.Refusing) {out m : List Byte} {a : Byte} {st : σ × EncSt}
    (h : R.Inv out (a :: m) st) :
    (∃ st', Cobs.push F st a = (st', none) ∧ R.Inv out m st') ∨
    (∃ st', Cobs.push F st a = (st', some .bufferFull) ∧ R.stuck st'.1) := by
  obtain ⟨s, e⟩ := st
  obtain ⟨n, hn, hv, hw0⟩ := h
  obtain ⟨s1, ws, e', hv1, hl1, hw, heq⟩ := hw0.push R
  have hlt := hw.length_lt
  rw [List.length_append, hl1] at hlt
  -- the bytes `ws` are among the `n` missing ones
  obtain ⟨k, rfl⟩ := Nat.exists_eq_add_of_le (show ws.length ≤ n by omega)
  rw [heq]
  rcases R.extend ws k s1 (hv1 _ hv) with ⟨s2, h2, hl2, hv2⟩ | ⟨s2, h2, hx⟩
  · exact .inl ⟨(s2, e'), by rw [h2], k,
      by rw [hl2, List.length_append, hl1, ← hn, Nat.add_assoc], hv2, hl2 ▸ hw⟩
  · exact .inr ⟨(s2, e'), by rw [h2], hx⟩

theorem cobs_extend_refusing (R : L.Refusing) {out : List Byte} (m : List Byte) :
    ∀ {st : σ × EncSt}, R.Inv out m st →
    (∃ st', defaultExtend (Cobs.push F) st m = (st', none) ∧ R.Inv out [] st') ∨
    (∃ st', defaultExtend (Cobs.push F) st m = (st', some .bufferFull) ∧ R.stuck st'.1) := by
  induction m with
  | nil => exact fun h => .inl ⟨_, rfl, h⟩
  | cons a m ih =>
    intro st h
    rcases cobs_push_refusing R h with ⟨st1, h1, hi1⟩ | ⟨st1, h1, hx⟩
    · rcases ih hi1 with ⟨st2, h2, hi2⟩ | ⟨st2, h2, hx⟩
      · exact .inl ⟨st2, by simp only [defaultExtend, h1, h2], hi2⟩
      · exact .inr ⟨st2, by simp only [defaultExtend, h1, h2], hx⟩
    · exact .inr ⟨st1, by simp only [defaultExtend, h1], hx⟩

theorem cobs_fin_refusing (R : L.Refusing) {out : List Byte} {st : σ × EncSt}
    (h : R.Inv out [] st) :
    (∃ s2, Cobs.fin F st = (((F.finalize s2).1, st.2), .ok out) ∧ R.valid 0 s2 ∧ L.log s2 = out) ∨
    (∃ st', Cobs.fin F st = (st', .error .bufferFull) ∧ R.stuck st'.1) := by
  obtain ⟨s, e⟩ := st
  obtain ⟨n, hn, hv, hw⟩ := h
  obtain ⟨s1, hv1, hl1, hout, heq⟩ := hw.fin R
  -- only the sentinel is missing
  obtain rfl : n = 1 := by
    rw [← hout, List.length_append, hl1] at hn
    exact Nat.add_left_cancel hn
  rcases R.push_total 0 s1 0 (hv1 _ hv) with ⟨s2, h2, hl2, hv2⟩ | ⟨s2, h2, hx⟩
  · refine .inl ⟨s2, ?_, hv2, by rw [hl2, hout]⟩
    simp only [heq, h2]
    rw [L.finalize_ok s2, hl2, hout]
  · exact .inr ⟨(s2, e), by simp only [heq, h2], hx⟩

/-- the run `try_new; try_extend(m); finalize` over a storage started empty and good for the frame:
the reference frame (then the log of the storage), or a refusal at one of the three stages. -/
theorem cobs_run_refusing (R : L.Refusing) {s0 : σ} (h0 : L.log s0 = []) (m : List Byte)
    (hv : R.valid ((cobsEncode m).length + 1) s0) :
    (∃ st1, Cobs.tryNew F s0 = (st1, some .bufferFull) ∧ R.stuck st1.1) ∨
    (∃ st1, Cobs.tryNew F s0 = (st1, none) ∧
      ((∃ st2, defaultExtend (Cobs F).tryPush st1 m = (st2, some .bufferFull) ∧ R.stuck st2.1) ∨
       (∃ st2, defaultExtend (Cobs F).tryPush st1 m = (st2, none) ∧
          ((∃ st3, (Cobs F).finalize st2 = (st3, .error .bufferFull) ∧ R.stuck st3.1) ∨
           (∃ s3, (Cobs F).finalize st2 = (((F.finalize s3).1, st2.2), .ok (cobsEncode m ++ [0])) ∧
              R.valid 0 s3 ∧ L.log s3 = cobsEncode m ++ [0]))))) := by
  rcases R.push_total _ s0 0 hv with ⟨s1, h1, hl1, hv1⟩ | ⟨s1, h1, hx⟩
  · refine .inr ⟨(s1, EncSt.default), by simp only [Cobs.tryNew, h1], ?_⟩
    have hinv : R.Inv (cobsEncode m ++ [0]) m (s1, EncSt.default) :=
      ⟨_, by rw [hl1, h0, List.length_append (as := cobsEncode m)]; exact Nat.add_comm _ _, hv1,
        [], [], 0, by rw [hl1, h0], Nat.zero_le _, rfl, rfl⟩
    rcases cobs_extend_refusing R m hinv with ⟨st2, h2, hi2⟩ | ⟨st2, h2, hx⟩
    · exact .inr ⟨st2, h2, (cobs_fin_refusing R hi2).symm⟩
    · exact .inl ⟨st2, h2, hx⟩
  · exact .inl ⟨(s1, EncSt.default), by simp only [Cobs.tryNew, h1], hx⟩

theorem cobs_run_lawful (L : LawfulIdx F) {s0 : σ} (h0 : L.log s0 = []) (m : List Byte)
    (hroom : L.room s0 ((cobsEncode m).length + 1)) :
    ∃ st1 st2 st3, Cobs.tryNew F s0 = (st1, none) ∧
      defaultExtend (Cobs F).tryPush st1 m = (st2, none) ∧
      (Cobs F).finalize st2 = (st3, .ok (cobsEncode m ++ [0])) := by
  obtain ⟨_, _, ⟨⟩⟩ | ⟨st1, h1, ⟨_, _, ⟨⟩⟩ | ⟨st2, h2, ⟨_, _, ⟨⟩⟩ | ⟨s3, h3, _⟩⟩⟩ :=
    cobs_run_refusing (.ofRoom L) h0 m hroom
  exact ⟨st1, st2, _, h1, h2, h3⟩

end flavour

theorem cobs_tryExtend {σ ω : Type} (G : Flavor σ ω) :
    (Cobs G).tryExtend = defaultExtend (Cobs G).tryPush := rfl

/-- C06, general form: `F` is any inner flavour satisfying `LawfulIdx`, started empty with room for
the frame.  Whatever call sequence `cs` (pushes and extends) delivers `m`: `try_new`, every call
and `finalize` succeed, and `finalize` returns `cobsEncode m ++ [0]`. -/
theorem cobs_flavor_eq_spec_lawful {σ : Type} {F : Flavor σ (List Byte)} (L : LawfulIdx F)
    (s0 : σ) (cs : List Chunk) (m : List Byte) (hm : cs.flatMap Chunk.bytes = m)
    (h0 : L.log s0 = []) (hroom : L.room s0 ((cobsEncode m).length + 1)) :
    ∃ st1 st2 st3, Cobs.tryNew F s0 = (st1, none) ∧ (Cobs F).feed st1 cs = (st2, none) ∧
      (Cobs F).finalize st2 = (st3, .ok (cobsEncode m ++ [0])) := by
  subst hm
  obtain ⟨st1, st2, st3, h1, h2, h3⟩ := cobs_run_lawful L h0 (chunkBytes cs) hroom
  exact ⟨st1, st2, st3, h1, (Flavor.feed_defaultExtend _ (cobs_tryExtend F) st1 cs).trans h2, h3⟩

/-- source and destination may overlap; `di ≤ si`, so every byte is read before it is written. -/
theorem copyLoop_eq : ∀ (n : Nat) (cur : List Byte) (si di : Nat), di ≤ si → si + n ≤ cur.length →
    copyLoop n cur si di = (writeAt cur di ((cur.drop si).take n), .ok (si + n, di + n)) := by
  intro n
  induction n with
  | zero => intro cur si di _ _; rw [List.take_zero, writeAt_nil]; rfl
  | succ n ih =>
    intro cur si di hd hs
    have hsi : si < cur.length := by omega
    have hdi : di < cur.length := by omega
    rw [copyLoop, List.getElem?_eq_getElem hsi]
    simp only [if_pos hdi]
    rw [ih _ _ _ (Nat.succ_le_succ hd) (by rw [List.length_set]; omega),
      List.drop_set_of_lt (by omega), set_eq_writeAt _ hdi, List.drop_eq_getElem_cons hsi,
      List.take_succ_cons]
    exact Prod.ext (writeAt_writeAt [cur[si]] _ (Nat.le_of_lt hdi))
      (by simp only [Nat.succ_eq_add_one, Nat.add_assoc, Nat.add_comm 1])

private theorem getElem?_of_drop_eq_cons {α} {l : List α} {i : Nat} {x : α} {t : List α}
    (h : l.drop i = x :: t) :
    l[i]? = some x ∧ l.drop (i + 1) = t ∧ i + 1 + t.length = l.length := by
  have h0 : (l.drop i)[0]? = some x := by rw [h]; rfl
  have hl := congrArg List.length h
  rw [List.length_drop, List.length_cons] at hl
  rw [List.getElem?_drop] at h0
  refine ⟨h0, ?_, by omega⟩
  rw [← List.drop_drop, h]; rfl

/-- one iteration of the `while` loop: the block `c :: data` at `si` is written to `di` as
`data ++ z`, `z` being the implied zero or nothing. -/
theorem decodeLoop_block (fuel : Nat) {cur : List Byte} {si di srcEnd : Nat} {c : Byte}
    {data z tl tail : List Byte} (hdrop : cur.drop si = c :: (data ++ (tl ++ tail)))
    (hc : c.toNat = data.length + 1) (hend : srcEnd = si + 1 + data.length + tl.length)
    (hdi : di ≤ si) (hz : z = if c ≠ 0xFF ∧ tl ≠ [] then [0] else []) :
    decodeLoop srcEnd (fuel + 1) cur si di =
      decodeLoop srcEnd fuel (writeAt cur di (data ++ z)) (si + 1 + data.length)
        (di + (data ++ z).length) := by
  obtain ⟨hget, hdrop1, hlen⟩ := getElem?_of_drop_eq_cons hdrop
  simp only [List.length_append] at hlen
  have hfit : si + 1 + data.length + tl.length ≤ cur.length := by omega
  have hdl : di + data.length ≤ cur.length := by omega
  have hcopy := copyLoop_eq data.length cur (si + 1) di (Nat.le_succ_of_le hdi) (by omega)
  rw [hdrop1, List.take_left' rfl] at hcopy
  have hcond : ¬ (si + c.toNat > srcEnd ∧ c ≠ 1) := fun h => by omega
  simp only [decodeLoop, if_pos (show si < srcEnd by omega), hget, if_neg hcond,
    show c.toNat - 1 = data.length by rw [hc, Nat.add_sub_cancel], hcopy]
  subst hz
  by_cases hcz : c ≠ 0xFF ∧ tl ≠ []
  · -- an implied zero follows the block
    have htl : 0 < tl.length := List.length_pos_iff.mpr hcz.2
    have hdl' : di + data.length < (writeAt cur di data).length := by
      rw [writeAt_length hdl]; omega
    have hsent : 0xFF ≠ c ∧ si + 1 + data.length < srcEnd := ⟨fun h => hcz.1 h.symm, by omega⟩
    rw [if_pos hsent, if_pos hdl', if_pos hcz, set_eq_writeAt _ hdl',
      writeAt_writeAt _ _ (Nat.le_of_add_right_le hdl), List.length_append]
    rfl
  · -- no implied zero: a 0xFF block, or the end of the body
    have hzero : ¬ (0xFF ≠ c ∧ si + 1 + data.length < srcEnd) := by
      intro ⟨h1, h2⟩
      refine hcz ⟨fun h => h1 h.symm, fun h => ?_⟩
      rw [h, List.length_nil] at hend
      omega
    rw [if_neg hzero, if_neg hcz, List.append_nil]

/-- `decode_in_place` from read position `si` and write position `di ≤ si`, the unread part of
the frame body being `frem`: the verdict of the reference decoder on `frem`, and the buffer is
the old one with the decoded bytes `q` (all of the payload on success) written at `di`. -/
theorem decodeLoop_spec : ∀ (fuel : Nat) (cur : List Byte) (si di srcEnd : Nat)
    (frem tail : List Byte),
    cur.drop si = frem ++ tail → srcEnd = si + frem.length → di ≤ si →
    (∀ b ∈ frem, b ≠ 0) → frem.length < fuel →
    ∃ q, di + q.length ≤ srcEnd ∧ (∀ p, cobsDecode frem = some p → q = p) ∧
      decodeLoop srcEnd fuel cur si di = (writeAt cur di q, match cobsDecode frem with
        | none => .error .badEncoding
        | some p => .ok (di + p.length, srcEnd)) := by
  intro fuel
  induction fuel with
  | zero => intro cur si di srcEnd frem tail _ _ _ _ h; omega
  | succ fuel ih =>
    intro cur si di srcEnd frem tail hdrop hend hdi hz hfuel
    cases frem with
    | nil =>
      subst hend
      refine ⟨[], hdi, fun p hp => by cases hp; rfl, ?_⟩
      simp only [decodeLoop, List.length_nil, Nat.add_zero, Nat.lt_irrefl, if_false, writeAt_nil,
        cobsDecode_nil]
    | cons c rest =>
      have hc : c ≠ 0 := hz c (by simp)
      rw [List.cons_append] at hdrop
      by_cases hover : rest.length < c.toNat - 1
      · -- the code byte points past the end of the body
        obtain ⟨hget, _, _⟩ := getElem?_of_drop_eq_cons hdrop
        rw [List.length_cons] at hend
        have hcond : si + c.toNat > srcEnd ∧ c ≠ 1 :=
          ⟨by omega, fun h1 => by rw [h1] at hover; exact Nat.not_lt_zero _ hover⟩
        refine ⟨[], by rw [List.length_nil]; omega, fun p hp => ?_, ?_⟩
        · rw [cobsDecode_cons, if_neg hc, if_pos hover] at hp; cases hp
        · simp only [decodeLoop, if_pos (show si < srcEnd by omega), hget, if_pos hcond,
            cobsDecode_cons, if_neg hc, if_pos hover, writeAt_nil]
      · have hcn : c.toNat ≠ 0 := fun h0 => hc (UInt8.toNat_inj.mp (by simpa using h0))
        obtain ⟨data, tl, rfl, hcd⟩ : ∃ data tl, rest = data ++ tl ∧ c.toNat = data.length + 1 :=
          ⟨_, _, (List.take_append_drop (c.toNat - 1) rest).symm, by rw [List.length_take]; omega⟩
        clear hover hcn
        simp only [List.length_cons, List.length_append] at hend hfuel
        have hend' : srcEnd = si + 1 + data.length + tl.length := by omega
        rw [List.append_assoc] at hdrop
        obtain ⟨_, hdrop1, hlen⟩ := getElem?_of_drop_eq_cons hdrop
        generalize hzdef : (if c ≠ 0xFF ∧ tl ≠ [] then [(0 : Byte)] else []) = z
        have hzl : z.length ≤ 1 := by
          rw [← hzdef]
          split
          · exact Nat.le_refl 1
          · exact Nat.zero_le 1
        have hdz : di + (data ++ z).length ≤ si + 1 + data.length := by
          rw [List.length_append]; omega
        have hdc : di ≤ cur.length := by omega
        obtain ⟨q, hq, hqp, hrun⟩ := ih (writeAt cur di (data ++ z)) (si + 1 + data.length)
          (di + (data ++ z).length) srcEnd tl tail
          (by rw [writeAt_drop _ hdc hdz, ← List.drop_drop, hdrop1, List.drop_left' rfl])
          hend' hdz (fun b hb => hz b (by simp [hb])) (by omega)
        have hblock := cobsDecode_block c data tl hcd
        rw [hzdef] at hblock
        refine ⟨data ++ z ++ q, by rw [List.length_append, ← Nat.add_assoc]; exact hq,
          fun p hp => ?_, ?_⟩
        · rw [hblock] at hp
          cases hd : cobsDecode tl with
          | none => rw [hd] at hp; cases hp
          | some out => rw [hd] at hp; cases hp; rw [hqp out hd]
        · rw [decodeLoop_block fuel hdrop hcd hend' hdi hzdef.symm, hrun, writeAt_writeAt _ _ hdc,
            hblock]
          cases cobsDecode tl with
          | none => rfl
          | some out => simp only [List.length_append, Nat.add_assoc]

abbrev frameBody (buf : List Byte) : List Byte := buf.takeWhile (· ≠ 0)

theorem frameBody_split (buf : List Byte) :
    buf.findIdx (· == 0) = (frameBody buf).length ∧ (∀ b ∈ frameBody buf, b ≠ 0) ∧
    buf = frameBody buf ++ buf.drop (frameBody buf).length ∧
    (buf.drop (frameBody buf).length = [] ∨ ∃ r, buf.drop (frameBody buf).length = 0 :: r) := by
  induction buf with
  | nil => simp [frameBody]
  | cons a buf ih =>
    by_cases ha : a = 0
    · subst ha; simp [frameBody, List.findIdx_cons]
    · have hb : (a == 0) = false := by simpa using ha
      simpa [frameBody, List.findIdx_cons, ha, hb] using ih

theorem frameBody_length_le (buf : List Byte) : (frameBody buf).length ≤ buf.length :=
  (List.takeWhile_prefix _).length_le

theorem frameBody_append {e : List Byte} (hz : ∀ b ∈ e, b ≠ 0) (x : List Byte) :
    frameBody (e ++ x) = e ++ frameBody x :=
  List.takeWhile_append_of_pos (fun b hb => decide_eq_true (hz b hb))

theorem frameBody_of_zero_free {e : List Byte} (hz : ∀ b ∈ e, b ≠ 0) : frameBody e = e := by
  have := frameBody_append hz []
  rw [List.append_nil] at this
  exact this.trans (List.append_nil e)

theorem frameBody_frame (m rest : List Byte) :
    frameBody (cobsEncode m ++ [0] ++ rest) = cobsEncode m := by
  rw [List.append_assoc]
  exact (frameBody_append (frame_no_interior_zero m) _).trans (List.append_nil _)

/-- `decode_in_place_report` on an arbitrary buffer, in terms of the reference
decoder on the frame body: same verdict, the payload in front, everything from
the body's end onwards untouched.  The write position never overtakes the read position, so
the payload is no longer than the body. -/
theorem decodeRawSt_eq (buf : List Byte) : ∃ b1,
    decodeRawSt buf = (b1, match cobsDecode (frameBody buf) with
      | none => .error .badEncoding
      | some p => .ok (p.length, (frameBody buf).length)) ∧
    b1.length = buf.length ∧
    b1.drop (frameBody buf).length = buf.drop (frameBody buf).length ∧
    ∀ p, cobsDecode (frameBody buf) = some p →
      p.length ≤ (frameBody buf).length ∧ b1.take p.length = p := by
  obtain ⟨h1, h2, h3, _⟩ := frameBody_split buf
  have hle := frameBody_length_le buf
  obtain ⟨q, hq, hqp, hrun⟩ := decodeLoop_spec (buf.length + 1) buf 0 0 _ (frameBody buf) _
    h3 (Nat.zero_add _).symm (Nat.le_refl _) h2 (by omega)
  simp only [Nat.zero_add] at hq hrun
  refine ⟨_, by rw [decodeRawSt, h1, hrun], writeAt_length (by omega),
    writeAt_drop _ (Nat.zero_le _) (by omega), fun p hp => ?_⟩
  rw [← hqp p hp, writeAt_zero, List.take_left' rfl]
  exact ⟨hq, rfl⟩

theorem fromBytesCobs_eq {α} (decF : List Byte → R α) (buf : List Byte) :
    (fromBytesCobs decF buf).1 =
      match cobsDecode (frameBody buf) with
      | none => .error .badEncoding
      | some p => decF p := by
  obtain ⟨b1, hb, hl, _, ht⟩ := decodeRawSt_eq buf
  cases h : cobsDecode (frameBody buf) with
  | none => simp only [fromBytesCobs, hb, h]
  | some p =>
    have hle : p.length ≤ b1.length :=
      hl ▸ Nat.le_trans (ht p h).1 (frameBody_length_le buf)
    simp only [fromBytesCobs, hb, h, if_pos hle, (ht p h).2]

theorem takeFromBytesCobs_eq {α} (decF : List Byte → R α) (buf : List Byte) :
    (takeFromBytesCobs decF buf).1 =
      match cobsDecode (frameBody buf) with
      | none => .error .badEncoding
      | some p => (decF p).map (fun t => (t, buf.drop ((frameBody buf).length + 1))) := by
  obtain ⟨b1, hb, hl, hd, ht⟩ := decodeRawSt_eq buf
  cases h : cobsDecode (frameBody buf) with
  | none => simp only [takeFromBytesCobs, hb, h]
  | some p =>
    obtain ⟨hpf, ht⟩ := ht p h
    have hfb := frameBody_length_le buf
    -- `src_used` after the sentinel check: one past the body iff a zero follows it
    obtain ⟨su, hsu, h1, h2, h3⟩ : ∃ su,
        (if b1[(frameBody buf).length]? = some 0 then (frameBody buf).length + 1
          else (frameBody buf).length) = su ∧
        (frameBody buf).length ≤ su ∧ su ≤ buf.length ∧
        buf.drop su = buf.drop ((frameBody buf).length + 1) := by
      have hget : b1[(frameBody buf).length]? = (buf.drop (frameBody buf).length)[0]? := by
        rw [← hd, List.getElem?_drop]; rfl
      rw [hget]
      rcases (frameBody_split buf).2.2.2 with htl | ⟨r, htl⟩
      · have := List.drop_eq_nil_iff.mp htl
        exact ⟨_, by rw [htl]; rfl, Nat.le_refl _, hfb,
          by rw [htl, eq_comm]; exact List.drop_eq_nil_iff.mpr (by omega)⟩
      · obtain ⟨_, _, hlen⟩ := getElem?_of_drop_eq_cons htl
        exact ⟨_, by rw [htl]; rfl, Nat.le_succ _, by omega, rfl⟩
    have hrem : b1.drop su = buf.drop su := by
      rw [show su = (frameBody buf).length + (su - (frameBody buf).length) by omega,
        ← List.drop_drop, hd, List.drop_drop]
    have hnl : ¬ b1.length < p.length := by omega
    have hns : ¬ su < p.length := by omega
    have hnd : ¬ (b1.drop p.length).length < su - p.length := by
      simp only [List.length_drop]; omega
    simp only [takeFromBytesCobs, hb, h, hsu, if_neg hnl, if_neg hns, if_neg hnd, ht,
      List.drop_drop]
    rw [show p.length + (su - p.length) = su by omega, hrem, h3]
    cases decF p <;> rfl

theorem fromBytesCobs_snd {α} (decF : List Byte → R α) (buf : List Byte) :
    (fromBytesCobs decF buf).2 = (decodeRawSt buf).1 := by
  fun_cases fromBytesCobs decF buf
  all_goals simp only [*]

theorem takeFromBytesCobs_snd {α} (decF : List Byte → R α) (buf : List Byte) :
    (takeFromBytesCobs decF buf).2 = (decodeRawSt buf).1 := by
  fun_cases takeFromBytesCobs decF buf
  all_goals simp only [*]

end Postcard
