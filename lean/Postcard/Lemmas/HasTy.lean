import Postcard.Model.MaxSize
/-
  `hasTy` read from the type's side: the values of a shape, for every constructor of `Ty` but
  `str`, `bytes`, `seq`, `map` (the shape `tyOf m` of a `MaxSize` type without a `heapless`
  container has none of these; `Props/C12` inverts `hasTy` for those types) and `any`,
  `identifier`, `ignoredAny`, which have no values.

  `hasTy` matches on the value first, so `hasTy v (.option t)` with a variable `v`
  does not compute.  `fun_cases hasTy v t` has one case per clause of the
  definition, with the clause's right-hand side in place of `hasTy v t`; the
  fall-through clause reads `false = true`.
-/
namespace Postcard

/-- the four enum clauses of `hasTy`, read from the descriptor `d` found at the value's index:
which kind of variant a value is shows in its constructor, and the shape has to offer a
descriptor of that kind. -/
def Ty.VariantShape (idx : Nat) (v : Val) : Option Ty → Prop
  | some .unit => v = .unitVariant idx
  | some (.newtypeStruct t) => ∃ w, v = .newtypeVariant idx w ∧ hasTy w t = true
  | some (.tuple ts) => ∃ vs, v = .tupleVariant idx vs ∧ hasTys vs ts = true
  | some (.struct ts) => ∃ vs, v = .structVariant idx vs ∧ hasTys vs ts = true
  | _ => False

/-- the form of the values of a shape (`True`: nothing is said). -/
def Ty.Shape : Ty → Val → Prop
  | .bool, v => ∃ b, v = .bool b
  | .u w, v => ∃ n, v = .u w n ∧ n < 2 ^ w.bits
  | .i w, v => ∃ x, v = .i w x ∧ w.inRangeI x = true
  | .f32, v => ∃ b, v = .f32 b ∧ b < 2 ^ 32
  | .f64, v => ∃ b, v = .f64 b ∧ b < 2 ^ 64
  | .char, v => ∃ c, v = .char c ∧ isScalar c = true
  | .option t, v => v = .none ∨ ∃ w, v = .some w ∧ hasTy w t = true
  | .unit, v => v = .unit
  | .unitStruct, v => v = .unitStruct
  | .newtypeStruct t, v => ∃ w, v = .newtypeStruct w ∧ hasTy w t = true
  | .tuple ts, v => ∃ vs, v = .tuple vs ∧ hasTys vs ts = true
  | .tupleStruct ts, v => ∃ vs, v = .tupleStruct vs ∧ hasTys vs ts = true
  | .struct ts, v => ∃ vs, v = .struct vs ∧ hasTys vs ts = true
  | .enum vts, v =>
    ∃ idx, v.variantIdx? = some idx ∧ idx < 2 ^ 32 ∧ Ty.VariantShape idx v vts[idx]?
  | _, _ => True

theorem hasTy_shape {v : Val} {t : Ty} (h : hasTy v t = true) : t.Shape v := by
  revert h
  fun_cases hasTy v t
  all_goals intro h
  case case1 b => exact ⟨b, rfl⟩ -- .bool b, .bool
  case case2 w n w' => -- .u w n, .u w'
    have ⟨h1, h2⟩ := Bool.and_eq_true_iff.1 h
    cases of_decide_eq_true h1
    exact ⟨n, rfl, of_decide_eq_true h2⟩
  case case3 w x w' => -- .i w x, .i w'
    have ⟨h1, h2⟩ := Bool.and_eq_true_iff.1 h
    cases of_decide_eq_true h1
    exact ⟨x, rfl, h2⟩
  case case4 b | case5 b => exact ⟨b, rfl, of_decide_eq_true h⟩ -- .f32 b, .f32;  .f64 b, .f64
  case case6 c => exact ⟨c, rfl, h⟩ -- .char c, .char
  case case9 t => exact .inl rfl -- .none, .option t
  case case10 w t => exact .inr ⟨w, rfl, h⟩ -- .some w, .option t
  case case11 | case12 => exact rfl -- .unit, .unit;  .unitStruct, .unitStruct
  case case13 w t => exact ⟨w, rfl, h⟩ -- .newtypeStruct w, .newtypeStruct t
  case case15 vs ts | case16 vs ts | case17 vs ts => -- .tuple vs, .tuple ts; .tupleStruct; .struct
    exact ⟨vs, rfl, h⟩
  case case19 idx vts => -- .unitVariant idx, .enum vts
    have ⟨h1, h2⟩ := Bool.and_eq_true_iff.1 h
    refine ⟨idx, rfl, of_decide_eq_true h1, ?_⟩
    split at h2
    next heq => rw [heq]; rfl
    next => cases h2
  case case20 idx w vts => -- .newtypeVariant idx w, .enum vts
    have ⟨h1, h2⟩ := Bool.and_eq_true_iff.1 h
    refine ⟨idx, rfl, of_decide_eq_true h1, ?_⟩
    split at h2
    next t heq => rw [heq]; exact ⟨w, rfl, h2⟩
    next => cases h2
  -- .tupleVariant idx vs, .enum vts;  .structVariant idx vs, .enum vts
  case case21 idx vs vts | case22 idx vs vts =>
    have ⟨h1, h2⟩ := Bool.and_eq_true_iff.1 h
    refine ⟨idx, rfl, of_decide_eq_true h1, ?_⟩
    split at h2
    next ts heq => rw [heq]; exact ⟨vs, rfl, h2⟩
    next => cases h2
  case case23 => contradiction -- the fall-through clause
  all_goals trivial -- the rows `True`

theorem hasTy_enum_at {v : Val} {vts : List Ty} {idx : Nat} {d : Option Ty}
    (hi : v.variantIdx? = some idx) (hg : vts[idx]? = d) (h : hasTy v (.enum vts) = true) :
    Ty.VariantShape idx v d := by
  obtain ⟨idx', hi', _, hd⟩ := hasTy_shape h
  cases hi.symm.trans hi'
  exact hg ▸ hd

/-- the values of the shape of `Result<T, E>`. -/
theorem hasTy_result {v : Val} {a b : Ty}
    (h : hasTy v (.enum [.newtypeStruct a, .newtypeStruct b]) = true) :
    (∃ w, v = .newtypeVariant 0 w ∧ hasTy w a = true) ∨
    (∃ w, v = .newtypeVariant 1 w ∧ hasTy w b = true) := by
  obtain ⟨idx, _, _, hd⟩ := hasTy_shape h
  match idx, hd with
  | 0, hd => exact .inl hd
  | 1, hd => exact .inr hd
  | _ + 2, hd => exact hd.elim

theorem hasTy_unitVariant {idx : Nat} {vts : List Ty} (hlt : idx < 2 ^ 32)
    (hg : vts[idx]? = some .unit) : hasTy (.unitVariant idx) (.enum vts) = true :=
  Bool.and_eq_true_iff.2 ⟨decide_eq_true hlt, by rw [hg]⟩

theorem hasTy_newtypeVariant {idx : Nat} {w : Val} {vts : List Ty} {t : Ty} (hlt : idx < 2 ^ 32)
    (hg : vts[idx]? = some (.newtypeStruct t)) (hw : hasTy w t = true) :
    hasTy (.newtypeVariant idx w) (.enum vts) = true :=
  Bool.and_eq_true_iff.2 ⟨decide_eq_true hlt, by rw [hg]; exact hw⟩

theorem hasTy_tupleVariant {idx : Nat} {vs : List Val} {vts ts : List Ty} (hlt : idx < 2 ^ 32)
    (hg : vts[idx]? = some (.tuple ts)) (hvs : hasTys vs ts = true) :
    hasTy (.tupleVariant idx vs) (.enum vts) = true :=
  Bool.and_eq_true_iff.2 ⟨decide_eq_true hlt, by rw [hg]; exact hvs⟩

theorem hasTy_structVariant {idx : Nat} {vs : List Val} {vts ts : List Ty} (hlt : idx < 2 ^ 32)
    (hg : vts[idx]? = some (.struct ts)) (hvs : hasTys vs ts = true) :
    hasTy (.structVariant idx vs) (.enum vts) = true :=
  Bool.and_eq_true_iff.2 ⟨decide_eq_true hlt, by rw [hg]; exact hvs⟩

theorem hasTys_nil {vs : List Val} (h : hasTys vs [] = true) : vs = [] := by
  cases vs
  case nil => rfl
  case cons => cases h

theorem hasTys_cons {vs : List Val} {t : Ty} {ts : List Ty} (h : hasTys vs (t :: ts) = true) :
    ∃ v vs', vs = v :: vs' ∧ hasTy v t = true ∧ hasTys vs' ts = true := by
  cases vs
  case nil => cases h
  case cons v vs' => exact ⟨v, vs', rfl, Bool.and_eq_true_iff.1 h⟩

/-- the fall-through clause of `hasTys`, from the hypotheses functional induction gives for it. -/
theorem hasTys_eq_false : ∀ {vs : List Val} {ts : List Ty}, (vs = [] → ts = [] → False) →
    (∀ v vs' t ts', vs = v :: vs' → ts = t :: ts' → False) → hasTys vs ts = false
  | [], [], h1, _ => (h1 rfl rfl).elim
  | [], _ :: _, _, _ => rfl
  | _ :: _, [], _, _ => rfl
  | _ :: _, _ :: _, _, h2 => (h2 _ _ _ _ rfl rfl).elim

theorem hasTys_replicate {vs : List Val} {n : Nat} {t : Ty} :
    hasTys vs (List.replicate n t) = true ↔ vs.length = n ∧ ∀ v ∈ vs, hasTy v t = true := by
  induction n generalizing vs with
  | zero =>
    exact ⟨fun h => hasTys_nil h ▸ ⟨rfl, nofun⟩,
      fun h => List.eq_nil_of_length_eq_zero h.1 ▸ rfl⟩
  | succ n ih =>
    constructor
    · intro h
      obtain ⟨v, vs', rfl, hv, hvs⟩ := hasTys_cons h
      have ⟨h1, h2⟩ := ih.1 hvs
      exact ⟨congrArg (· + 1) h1, List.forall_mem_cons.2 ⟨hv, h2⟩⟩
    · rintro ⟨hl, hall⟩
      obtain ⟨v, vs', rfl⟩ := List.exists_cons_of_length_eq_add_one hl
      have ⟨hv, hvs⟩ := List.forall_mem_cons.1 hall
      exact Bool.and_eq_true_iff.2 ⟨hv, ih.2 ⟨Nat.succ.inj hl, hvs⟩⟩

theorem hasTyAll_of_forall {vs : List Val} {t : Ty} (h : ∀ v ∈ vs, hasTy v t = true) :
    hasTyAll vs t = true := by
  induction vs with
  | nil => rfl
  | cons v vs ih =>
    have ⟨hv, hvs⟩ := List.forall_mem_cons.1 h
    exact Bool.and_eq_true_iff.2 ⟨hv, ih hvs⟩

end Postcard
