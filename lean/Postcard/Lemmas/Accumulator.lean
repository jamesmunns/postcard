import Postcard.Model.Accumulator
namespace Postcard

variable {α : Type}

theorem splitZero_nil : splitZero [] = none := rfl

theorem splitZero_cons (b : Byte) (bs : List Byte) :
    splitZero (b :: bs) =
      if b = 0 then some ([0], bs) else (splitZero bs).map fun p => (b :: p.1, p.2) := by
  by_cases hb : b = 0
  · simp [splitZero, zeroPos, hb]
  · simp only [splitZero, zeroPos, if_neg hb]
    cases zeroPos bs <;> rfl

theorem zero_cases (w : List Byte) :
    (0 : Byte) ∉ w ∨ ∃ pre r, w = pre ++ 0 :: r ∧ (0 : Byte) ∉ pre :=
  if h : (0 : Byte) ∈ w then .inr (List.eq_append_cons_of_mem h) else .inl h

theorem splitZero_append_zero {pre : List Byte} (h : (0 : Byte) ∉ pre) (r : List Byte) :
    splitZero (pre ++ 0 :: r) = some (pre ++ [0], r) := by
  induction pre with
  | nil => simp [splitZero_cons]
  | cons b bs ih =>
    rw [List.cons_append, splitZero_cons, if_neg (List.ne_of_not_mem_cons h).symm,
      ih (List.not_mem_of_not_mem_cons h)]
    rfl

theorem splitZero_none_iff {w : List Byte} : splitZero w = none ↔ (0 : Byte) ∉ w := by
  induction w with
  | nil => simp [splitZero_nil]
  | cons b bs ih =>
    rw [splitZero_cons, List.mem_cons, not_or]
    by_cases hb : b = 0
    · simp [hb]
    · rw [if_neg hb, Option.map_eq_none_iff, ih]
      exact ⟨fun h => ⟨fun h0 => hb h0.symm, h⟩, fun h => h.2⟩

theorem splitZero_some {w t r : List Byte} (h : splitZero w = some (t, r)) :
    ∃ pre, t = pre ++ [0] ∧ w = pre ++ 0 :: r ∧ (0 : Byte) ∉ pre := by
  rcases zero_cases w with h0 | ⟨pre, r', rfl, hp⟩
  · rw [splitZero_none_iff.2 h0] at h; cases h
  · rw [splitZero_append_zero hp] at h
    cases h
    exact ⟨pre, rfl, rfl, hp⟩

theorem segs_of_not_mem {c : List Byte} (h : (0 : Byte) ∉ c) (cur : List Byte) :
    segs cur c = ([], cur ++ c) := by
  induction c generalizing cur with
  | nil => simp [segs]
  | cons b bs ih =>
    simp [segs, (List.ne_of_not_mem_cons h).symm, ih (List.not_mem_of_not_mem_cons h)]

theorem segs_append (cur x y : List Byte) :
    segs cur (x ++ y) =
      ((segs cur x).1 ++ (segs (segs cur x).2 y).1, (segs (segs cur x).2 y).2) := by
  induction x generalizing cur with
  | nil => simp [segs]
  | cons b bs ih => by_cases hb : b = 0 <;> simp [segs, hb, ih]

theorem segs_append_zero {pre : List Byte} (h : (0 : Byte) ∉ pre) (cur r : List Byte) :
    segs cur (pre ++ 0 :: r) = ((cur ++ pre) :: (segs [] r).1, (segs [] r).2) := by
  rw [segs_append, segs_of_not_mem h]
  rfl

theorem tail_le {n : Nat} {t y : List Byte} (h : Fits n (segs t y)) : t.length ≤ n := by
  rcases zero_cases y with h0 | ⟨pre, r, rfl, hp⟩
  · have := h.2
    rw [segs_of_not_mem h0, List.length_append] at this
    omega
  · have := h.1 (t ++ pre) (by simp [segs_append_zero hp])
    rw [List.length_append] at this
    omega

theorem Fits_append {n : Nat} {cur x y : List Byte} (h : Fits n (segs cur (x ++ y))) :
    (∀ s ∈ (segs cur x).1, s.length + 1 ≤ n) ∧ Fits n (segs (segs cur x).2 y) := by
  rw [segs_append] at h
  exact ⟨fun s hs => h.1 s (by simp [hs]), fun s hs => h.1 s (by simp [hs]), h.2⟩

theorem Fits_prefix {n : Nat} {cur x y : List Byte} (h : Fits n (segs cur (x ++ y))) :
    Fits n (segs cur x) :=
  ⟨(Fits_append h).1, tail_le (Fits_append h).2⟩

theorem feed_nil (decF : List Byte → Option α) (a : Acc) : a.feed decF [] = (.consumed, a) := by
  simp [Acc.feed]

theorem feed_noZero (decF : List Byte → Option α) {a : Acc} {w : List Byte}
    (hz : (0 : Byte) ∉ w) (hinv : a.buf.length ≤ a.n) :
    a.feed decF w =
      if a.buf.length + w.length ≤ a.n then (.consumed, ⟨a.n, a.buf ++ w⟩)
      else (.overFull (w.drop (a.n - a.buf.length)), ⟨a.n, []⟩) := by
  cases w with
  | nil => simp [feed_nil, hinv]
  | cons b bs =>
    simp only [Acc.feed, List.isEmpty_cons, splitZero_none_iff.2 hz, Acc.extendUnchecked,
      Bool.false_eq_true, if_false]
    by_cases hfit : a.buf.length + (b :: bs).length ≤ a.n
    · simp only [if_neg (Nat.not_lt.mpr hfit), if_pos hfit]
    · simp only [if_pos (Nat.lt_of_not_le hfit), if_neg hfit, if_neg (Nat.not_lt.mpr hinv),
        if_pos (show a.n - a.buf.length ≤ (b :: bs).length by omega)]

/-- `feed_ref`'s `match from_bytes_cobs(..) { Ok(t) => Success { data: t, remaining },
Err(_) => DeserError(remaining) }`. -/
def decRes (decF : List Byte → Option α) (frame r : List Byte) : FeedRes α :=
  match decF frame with
  | some d => .success d r
  | none => .deserError r

theorem decRes_next (decF : List Byte → Option α) (x r : List Byte) :
    (decRes decF x r).next = some r := by
  unfold decRes; cases decF x <;> rfl

theorem feed_zero (decF : List Byte → Option α) (a : Acc) {pre : List Byte}
    (hz : (0 : Byte) ∉ pre) (r : List Byte) :
    a.feed decF (pre ++ 0 :: r) =
      (if a.buf.length + pre.length + 1 ≤ a.n then decRes decF (a.buf ++ pre ++ [0]) r
        else .overFull r, ⟨a.n, []⟩) := by
  have hne : (pre ++ 0 :: r).isEmpty = false := by cases pre <;> rfl
  -- `take = pre ++ [0]`, `release = r`; the three length tests (before `extend_unchecked`, inside
  -- it, at the slice `[..self.idx]`) all come down to `hfit`
  by_cases hfit : a.buf.length + pre.length + 1 ≤ a.n
  all_goals simp only [Acc.feed, hne, splitZero_append_zero hz, Acc.extendUnchecked,
    List.length_append, List.length_singleton, ← Nat.add_assoc, hfit, Bool.false_eq_true,
    if_false, if_true, decRes, List.append_assoc]
  cases decF (a.buf ++ (pre ++ [0])) <;> rfl

theorem extendUnchecked_n {a a1 : Acc} {x : List Byte} (h : a.extendUnchecked x = some a1) :
    a1.n = a.n := by
  simp only [Acc.extendUnchecked] at h
  split at h
  · cases h; rfl
  · cases h

theorem feed_n (decF : List Byte → Option α) (a : Acc) (w : List Byte) :
    (a.feed decF w).2.n = a.n := by
  fun_cases Acc.feed decF a w
  any_goals rfl
  · exact extendUnchecked_n ‹_›
  · exact extendUnchecked_n ‹_›

theorem feed_inv (decF : List Byte → Option α) (a : Acc) (w : List Byte)
    (hinv : a.buf.length ≤ a.n) :
    (a.feed decF w).2.buf.length ≤ (a.feed decF w).2.n ∧ (a.feed decF w).1 ≠ .panic := by
  rcases zero_cases w with h0 | ⟨pre, r, rfl, hp⟩
  · rw [feed_noZero decF h0 hinv]
    split
    · next h => exact ⟨by simpa using h, nofun⟩
    · exact ⟨Nat.zero_le _, nofun⟩
  · rw [feed_zero decF a hp]
    refine ⟨Nat.zero_le _, ?_⟩
    split
    · unfold decRes; split <;> nofun
    · nofun

/-- `c`, what the call consumed of the window, is empty only when the buffer was full: the no-zero
overflow branch hands back `input[N - idx..]`. -/
theorem feed_next (decF : List Byte → Option α) {a a' : Acc} {w w' : List Byte} {r : FeedRes α}
    (hinv : a.buf.length ≤ a.n) (hf : a.feed decF w = (r, a')) (hn : r.next = some w') :
    a' = ⟨a.n, []⟩ ∧ ∃ c, w = c ++ w' ∧ (c = [] → a.buf.length = a.n) := by
  rcases zero_cases w with h0 | ⟨pre, x, rfl, hp⟩
  · rw [feed_noZero decF h0 hinv] at hf
    split at hf
    · cases hf; cases hn
    · next hfit =>
      cases hf; cases hn
      refine ⟨rfl, w.take (a.n - a.buf.length), (List.take_append_drop _ _).symm, fun hc => ?_⟩
      rcases List.take_eq_nil_iff.1 hc with hc | rfl
      · omega
      · exact absurd hinv hfit
  · rw [feed_zero decF a hp] at hf
    cases hf
    obtain rfl : x = w' := by
      split at hn
      · rw [decRes_next] at hn; exact Option.some.inj hn
      · exact Option.some.inj hn
    exact ⟨rfl, pre ++ [0], by simp, by simp⟩

theorem frameResults_append (xs ys : List (FeedRes α)) :
    frameResults (xs ++ ys) = frameResults xs ++ frameResults ys := by
  induction xs with
  | nil => rfl
  | cons r rs ih => cases r <;> simp [frameResults, ih]

theorem overFull_mem_of_frameResults {rs : List (FeedRes α)}
    (h : Outcome.overFull ∈ frameResults rs) : ∃ w, FeedRes.overFull w ∈ rs := by
  induction rs with
  | nil => simp [frameResults] at h
  | cons r rs ih =>
    cases r with
    | overFull w => exact ⟨w, by simp⟩
    | _ =>
      simp only [frameResults, List.mem_cons, reduceCtorEq, false_or] at h
      obtain ⟨w, hw⟩ := ih h
      exact ⟨w, by simp [hw]⟩

theorem drainX_nil (decF : List Byte → Option α) (fuel : Nat) (a : Acc) :
    a.drainX decF fuel [] = (([], a), false) := by
  cases fuel <;> simp [Acc.drainX]

theorem drainX_stop (decF : List Byte → Option α) {a a' : Acc} {w : List Byte} {r : FeedRes α}
    (hw : w ≠ []) (hf : a.feed decF w = (r, a')) (hn : r.next = none) (fuel : Nat) :
    a.drainX decF (fuel + 1) w = (([r], a'), false) := by
  have he : w.isEmpty = false := List.isEmpty_eq_false_iff.2 hw
  cases r with
  | consumed | panic => simp [Acc.drainX, he, hf]
  | overFull x | deserError x | success d x => cases hn

theorem drainX_step (decF : List Byte → Option α) {a a' : Acc} {w w' : List Byte}
    {r : FeedRes α} (hw : w ≠ []) (hf : a.feed decF w = (r, a')) (hn : r.next = some w')
    (fuel : Nat) :
    a.drainX decF (fuel + 1) w =
      ((r :: (a'.drainX decF fuel w').1.1, (a'.drainX decF fuel w').1.2),
        (a'.drainX decF fuel w').2) := by
  have he : w.isEmpty = false := List.isEmpty_eq_false_iff.2 hw
  cases r with
  | consumed | panic => cases hn
  | overFull x | deserError x | success d x =>
    obtain rfl : x = w' := Option.some.inj hn
    simp [Acc.drainX, he, hf]

theorem drainX_forall (decF : List Byte → Option α) {I : Acc → Prop} {Q : FeedRes α → Prop}
    (h : ∀ a w, I a → I (a.feed decF w).2 ∧ Q (a.feed decF w).1) (fuel : Nat) (a : Acc)
    (w : List Byte) (ha : I a) :
    I (a.drainX decF fuel w).1.2 ∧ ∀ r ∈ (a.drainX decF fuel w).1.1, Q r := by
  induction fuel generalizing a w with
  | zero => exact ⟨ha, by simp [Acc.drainX]⟩
  | succ fuel ih =>
    by_cases hw : w = []
    · subst hw; rw [drainX_nil]; exact ⟨ha, by simp⟩
    · have h1 := h a w ha
      cases hf : a.feed decF w with
      | mk r a' =>
        rw [hf] at h1
        cases hn : r.next with
        | none => rw [drainX_stop decF hw hf hn]; exact ⟨h1.1, by simpa using h1.2⟩
        | some w' =>
          rw [drainX_step decF hw hf hn]
          exact ⟨(ih a' w' h1.1).1, by simpa using ⟨h1.2, (ih a' w' h1.1).2⟩⟩

theorem drainX_n (decF : List Byte → Option α) (fuel : Nat) (a : Acc) (w : List Byte) :
    (a.drainX decF fuel w).1.2.n = a.n :=
  (drainX_forall decF (I := fun a' => a'.n = a.n) (Q := fun _ => True)
    (fun a' w h => ⟨(feed_n decF a' w).trans h, trivial⟩) fuel a w rfl).1

theorem drainX_inv (decF : List Byte → Option α) (fuel : Nat) (a : Acc) (w : List Byte)
    (hinv : a.buf.length ≤ a.n) :
    (a.drainX decF fuel w).1.2.buf.length ≤ (a.drainX decF fuel w).1.2.n :=
  (drainX_forall decF (I := fun a => a.buf.length ≤ a.n) (Q := (· ≠ .panic)) (feed_inv decF)
    fuel a w hinv).1

/-- Whatever the state, behind the window's first zero the loop goes on as a fresh accumulator
would. -/
theorem drainX_zero (decF : List Byte → Option α) (a : Acc) {pre : List Byte}
    (hz : (0 : Byte) ∉ pre) (rest : List Byte) (fuel : Nat) :
    frameResults (a.drainX decF (fuel + 1) (pre ++ 0 :: rest)).1.1 =
        (if a.buf.length + pre.length + 1 ≤ a.n then isolated decF (a.buf ++ pre) else .overFull)
          :: frameResults ((⟨a.n, []⟩ : Acc).drainX decF fuel rest).1.1 ∧
      (a.drainX decF (fuel + 1) (pre ++ 0 :: rest)).1.2 =
        ((⟨a.n, []⟩ : Acc).drainX decF fuel rest).1.2 := by
  have hf := feed_zero decF a hz rest
  by_cases hfit : a.buf.length + pre.length + 1 ≤ a.n
  · rw [if_pos hfit] at hf ⊢
    rw [drainX_step decF (by simp) hf (decRes_next ..)]
    exact ⟨by unfold decRes isolated; cases decF (a.buf ++ pre ++ [0]) <;> rfl, rfl⟩
  · rw [if_neg hfit] at hf ⊢
    rw [drainX_step decF (by simp) hf rfl]
    exact ⟨rfl, rfl⟩

theorem drainX_fits (decF : List Byte → Option α) {n : Nat} (fuel : Nat) (b c : List Byte)
    (hfuel : c.length < fuel) (hfit : Fits n (segs b c)) :
    frameResults ((⟨n, b⟩ : Acc).drainX decF fuel c).1.1 = (segs b c).1.map (isolated decF) ∧
      ((⟨n, b⟩ : Acc).drainX decF fuel c).1.2 = ⟨n, (segs b c).2⟩ := by
  induction fuel generalizing b c with
  | zero => omega
  | succ fuel ih =>
    rcases zero_cases c with h0 | ⟨pre, r, rfl, hp⟩
    · rw [segs_of_not_mem h0] at hfit ⊢
      have h2 := hfit.2
      rw [List.length_append] at h2
      by_cases hw : c = []
      · subst hw; rw [drainX_nil]; simp [frameResults]
      · have hf := feed_noZero decF (a := ⟨n, b⟩) h0 (Nat.le_of_add_right_le h2)
        rw [drainX_stop decF hw (hf.trans (if_pos h2)) rfl]
        exact ⟨rfl, rfl⟩
    · rw [segs_append_zero hp] at hfit ⊢
      have h1 := hfit.1 (b ++ pre) (by simp)
      rw [List.length_append] at h1
      obtain ⟨e1, e2⟩ := drainX_zero decF ⟨n, b⟩ hp r fuel
      simp only [List.length_append, List.length_cons] at hfuel
      obtain ⟨i1, i2⟩ := ih [] r (by omega) ⟨fun s hs => hfit.1 s (by simp [hs]), hfit.2⟩
      exact ⟨by rw [e1, if_pos h1, i1]; rfl, e2.trans i2⟩

theorem drainX_terminates (decF : List Byte → Option α) (fuel : Nat) (a : Acc) (w : List Byte)
    (hn : 1 ≤ a.n) (hinv : a.buf.length ≤ a.n)
    (hfuel : 2 * w.length + min a.buf.length 1 ≤ fuel) :
    (a.drainX decF fuel w).2 = false ∧
      (a.drainX decF fuel w).1.1.length ≤ 2 * w.length + min a.buf.length 1 := by
  induction fuel generalizing a w with
  | zero =>
    generalize min a.buf.length 1 = m at hfuel ⊢
    obtain rfl : w = [] := List.eq_nil_of_length_eq_zero (by omega)
    exact ⟨rfl, Nat.zero_le _⟩
  | succ fuel ih =>
    by_cases hw : w = []
    · subst hw; rw [drainX_nil]; exact ⟨rfl, Nat.zero_le _⟩
    · cases hf : a.feed decF w with
      | mk r a' =>
        cases hr : r.next with
        | none =>
          rw [drainX_stop decF hw hf hr]
          have hpos : 0 < w.length := List.length_pos_iff.mpr hw
          exact ⟨rfl, Nat.le_add_right_of_le (show 1 ≤ 2 * w.length by omega)⟩
        | some w' =>
          rw [drainX_step decF hw hf hr]
          obtain ⟨rfl, c, rfl, hc⟩ := feed_next decF hinv hf hr
          -- a call that took nothing found the buffer full, hence (`1 ≤ n`) non-empty
          have hlt : 2 * w'.length < 2 * (c ++ w').length + min a.buf.length 1 := by
            cases c with
            | nil => rw [hc rfl, List.nil_append]; omega
            | cons => simp only [List.length_append, List.length_cons]; omega
          -- the measure before the call is from here on just a number `m`
          generalize 2 * (c ++ w').length + min a.buf.length 1 = m at hfuel hlt ⊢
          have h := ih ⟨a.n, []⟩ w' hn (Nat.zero_le _)
            (Nat.le_of_lt_succ (Nat.lt_of_lt_of_le hlt hfuel))
          exact ⟨h.1, Nat.succ_le_of_lt (Nat.lt_of_le_of_lt h.2 hlt)⟩

theorem drainX_resync (decF : List Byte → Option α) (fuel : Nat) (a : Acc) (g y : List Byte)
    (hfuel : (g ++ 0 :: y).length < fuel) (hfit : Fits a.n (segs [] y)) :
    ∃ pre, frameResults (a.drainX decF fuel (g ++ 0 :: y)).1.1
        = pre ++ (segs [] y).1.map (isolated decF) ∧
      (a.drainX decF fuel (g ++ 0 :: y)).1.2 = ⟨a.n, (segs [] y).2⟩ := by
  induction fuel generalizing a g with
  | zero => omega
  | succ fuel ih =>
    simp only [List.length_append, List.length_cons] at hfuel
    rcases zero_cases g with h0 | ⟨p, r, rfl, hp⟩
    · obtain ⟨e1, e2⟩ := drainX_zero decF a h0 y fuel
      obtain ⟨i1, i2⟩ := drainX_fits decF (n := a.n) fuel [] y (by omega) hfit
      exact ⟨[_], by rw [e1, i1]; rfl, e2.trans i2⟩
    · rw [List.append_assoc, List.cons_append]
      obtain ⟨e1, e2⟩ := drainX_zero decF a hp (r ++ 0 :: y) fuel
      simp only [List.length_append, List.length_cons] at hfuel
      obtain ⟨pre, j1, j2⟩ := ih ⟨a.n, []⟩ r
        (by simp only [List.length_append, List.length_cons]; omega) hfit
      exact ⟨_ :: pre, by rw [e1, j1]; rfl, e2.trans j2⟩

theorem drainChunk_eq (decF : List Byte → Option α) (a : Acc) (c : List Byte) :
    a.drainChunk decF c = (a.drainX decF (2 * c.length + 2) c).1 := rfl

theorem drainChunk_n (decF : List Byte → Option α) (a : Acc) (c : List Byte) :
    (a.drainChunk decF c).2.n = a.n := drainX_n decF _ a c

theorem drainChunk_nil (decF : List Byte → Option α) (a : Acc) :
    a.drainChunk decF [] = ([], a) := by
  rw [drainChunk_eq, drainX_nil]

theorem run_nil (decF : List Byte → Option α) (a : Acc) : Acc.run decF a [] = ([], a) := rfl

theorem run_cons (decF : List Byte → Option α) (a : Acc) (c : List Byte)
    (cs : List (List Byte)) :
    Acc.run decF a (c :: cs) =
      ((a.drainChunk decF c).1 ++ (Acc.run decF (a.drainChunk decF c).2 cs).1,
        (Acc.run decF (a.drainChunk decF c).2 cs).2) := rfl

theorem run_forall (decF : List Byte → Option α) {I : Acc → Prop} {Q : FeedRes α → Prop}
    (h : ∀ a w, I a → I (a.feed decF w).2 ∧ Q (a.feed decF w).1) (a : Acc)
    (chunks : List (List Byte)) (ha : I a) :
    I (Acc.run decF a chunks).2 ∧ ∀ r ∈ (Acc.run decF a chunks).1, Q r := by
  induction chunks generalizing a with
  | nil => exact ⟨ha, by simp [run_nil]⟩
  | cons c cs ih =>
    have h1 := drainX_forall decF h (2 * c.length + 2) a c ha
    have h2 := ih (a.drainChunk decF c).2 h1.1
    rw [run_cons]
    exact ⟨h2.1, fun r hr => (List.mem_append.1 hr).elim (h1.2 r) (h2.2 r)⟩

theorem run_n (decF : List Byte → Option α) (a : Acc) (chunks : List (List Byte)) :
    (Acc.run decF a chunks).2.n = a.n :=
  (run_forall decF (I := fun a' => a'.n = a.n) (Q := fun _ => True)
    (fun a' w h => ⟨(feed_n decF a' w).trans h, trivial⟩) a chunks rfl).1

theorem run_inv (decF : List Byte → Option α) (a : Acc) (chunks : List (List Byte))
    (hinv : a.buf.length ≤ a.n) :
    (Acc.run decF a chunks).2.buf.length ≤ (Acc.run decF a chunks).2.n ∧
      FeedRes.panic ∉ (Acc.run decF a chunks).1 :=
  have h := run_forall decF (I := fun a => a.buf.length ≤ a.n) (Q := (· ≠ .panic))
    (feed_inv decF) a chunks hinv
  ⟨h.1, fun hp => h.2 _ hp rfl⟩

theorem run_of_flatten_nil (decF : List Byte → Option α) (a : Acc) (chunks : List (List Byte))
    (h : chunks.flatten = []) : Acc.run decF a chunks = ([], a) := by
  induction chunks with
  | nil => rfl
  | cons c cs ih =>
    simp only [List.flatten_cons, List.append_eq_nil_iff] at h
    obtain ⟨rfl, h2⟩ := h
    simp only [run_cons, drainChunk_nil, ih h2, List.nil_append]

/-- Where the first chunk ends relative to a distinguished zero of the stream. -/
theorem chunk_split {c x g y : List Byte} (h : c ++ x = g ++ 0 :: y) :
    (∃ g', g = c ++ g' ∧ x = g' ++ 0 :: y) ∨ (∃ c', c = g ++ 0 :: c' ∧ y = c' ++ x) := by
  rcases List.append_eq_append_iff.mp h with ⟨a', h1, h2⟩ | ⟨c', h1, h2⟩
  · exact .inl ⟨a', h1, h2⟩
  · cases c' with
    | nil => exact .inl ⟨[], by simpa using h1.symm, by simpa using h2.symm⟩
    | cons z c'' =>
      obtain ⟨rfl, h3⟩ := List.cons.inj h2
      exact .inr ⟨c'', h1, h3⟩

end Postcard
