import Postcard.Model.DeFlavor
import Postcard.Lemmas.Flavor
import Postcard.Lemmas.RoundTrip
import Postcard.Lemmas.SlidingBuffer
/-
  One simulation (`Sim`, `Agrees`, `decG_agrees`) between the flavour-generic deserializer
  `decG F` and the list-level `dec`, for any flavour whose `pop` / `try_take_n` act like list
  operations on a view of the remaining bytes: exactly (`Slice`, `Lax = False`) or up to extra
  `DeserializeUnexpectedEnd`s (the readers, `Lax = True`: scratch exhaustion, I/O faults).  For
  the reader flavour `IORuns` / `io_permitted` say when it succeeds on a permitted message and in
  which state it ends; for the writer flavour, `to_io` is one `write_all` of the encoding.
-/
namespace Postcard

variable {σ : Type}

@[simp] theorem thenG_ok {α β τ : Type} (a : α) (s : τ) (k : α → τ → R (β × τ)) :
    thenG (.ok (a, s)) k = k a s := rfl
@[simp] theorem thenG_error {α β τ : Type} (e : Err) (k : α → τ → R (β × τ)) :
    thenG (.error e) k = .error e := rfl

/-- `F` behaves like a list of remaining bytes `view s`, as long as the
invariant `Inv` holds; when `Lax` it may additionally fail with
`unexpectedEnd` at any call. -/
structure Sim (F : DeFlavor σ) (view : σ → List Byte) (Inv : σ → Prop) (Lax : Prop) : Prop where
  pop_ok : ∀ {s b s'}, Inv s → F.pop s = .ok (b, s') → view s = b :: view s' ∧ Inv s'
  pop_err : ∀ {s e}, Inv s → F.pop s = .error e → e = .unexpectedEnd ∧ (view s = [] ∨ Lax)
  take_ok : ∀ {s n bs s'}, Inv s → F.tryTakeN s n = .ok (bs, s') →
    view s = bs ++ view s' ∧ bs.length = n ∧ Inv s'
  take_err : ∀ {s n e}, Inv s → F.tryTakeN s n = .error e →
    e = .unexpectedEnd ∧ ((view s).length < n ∨ Lax)

/-- a run of the flavour (`res`) against the list-level run on its view (`ref`). -/
def Agrees {α : Type} (view : σ → List Byte) (Inv : σ → Prop) (Lax : Prop)
    (res : R (α × σ)) (ref : R (α × List Byte)) : Prop :=
  match res with
  | .ok (a, s') => ref = .ok (a, view s') ∧ Inv s'
  | .error e => ref = .error e ∨ (Lax ∧ e = .unexpectedEnd)

section generic
variable {view : σ → List Byte} {Inv : σ → Prop} {Lax : Prop}

theorem Agrees.err_refl {α : Type} {e : Err} :
    Agrees (α := α) view Inv Lax (.error e) (.error e) := .inl rfl

theorem Agrees.lax {α : Type} (hl : Lax) {ref : R (α × List Byte)} :
    Agrees view Inv Lax (.error .unexpectedEnd) ref := .inr ⟨hl, rfl⟩

/-- over an exact flavour (`Lax = False`) a failure is the reference's. -/
theorem Agrees.err_exact {α : Type} {res : R (α × σ)} {ref : R (α × List Byte)} {e : Err}
    (h : Agrees view Inv False res ref) (he : res = .error e) : ref = .error e := by
  subst he
  exact h.resolve_right fun hf => hf.1

theorem Agrees.ok {α : Type} {a : α} {s' : σ} (hI : Inv s') :
    Agrees view Inv Lax (.ok (a, s')) (.ok (a, view s')) := ⟨rfl, hI⟩

theorem Agrees.ite {α : Type} {c : Prop} [Decidable c] {x y : R (α × σ)}
    {x' y' : R (α × List Byte)} (ht : c → Agrees view Inv Lax x x')
    (hf : ¬c → Agrees view Inv Lax y y') :
    Agrees view Inv Lax (if c then x else y) (if c then x' else y') := by
  split
  · exact ht ‹_›
  · exact hf ‹_›

/-- `Agrees` goes through Rust's `?`: `out` is any list-level computation that
propagates the errors of `ref` and continues like `k` on its successes. -/
theorem Agrees.bind {α β : Type} {res : R (α × σ)} {ref : R (α × List Byte)}
    {k : α → σ → R (β × σ)} {out : R (β × List Byte)} (h : Agrees view Inv Lax res ref)
    (herr : ∀ e, ref = .error e → out = .error e)
    (hok : ∀ a s, Inv s → ref = .ok (a, view s) → Agrees view Inv Lax (k a s) out) :
    Agrees view Inv Lax (thenG res k) out := by
  cases res with
  | error e =>
    rcases h with h | ⟨hl, rfl⟩
    · rw [herr e h]; exact .err_refl
    · exact .lax hl
  | ok x => exact hok _ _ h.2 h.1

/-- one `Agrees.bind` where `out` is a `match` on `ref`; leaves the success case. -/
syntax "agrees_step " term " with " ident ident ident : tactic
macro_rules
  | `(tactic| agrees_step $H with $a $s $hI) => `(tactic|
      (refine Agrees.bind $H (fun _ h => by simp only [h]) fun $a $s $hI h => ?_
       simp only [h]))

variable {F : DeFlavor σ}

theorem Sim.of_cases
    (pop : ∀ s, Inv s → match F.pop s with
      | .ok (b, s') => view s = b :: view s' ∧ Inv s'
      | .error e => e = .unexpectedEnd ∧ (view s = [] ∨ Lax))
    (take : ∀ s n, Inv s → match F.tryTakeN s n with
      | .ok (bs, s') => view s = bs ++ view s' ∧ bs.length = n ∧ Inv s'
      | .error e => e = .unexpectedEnd ∧ ((view s).length < n ∨ Lax)) :
    Sim F view Inv Lax where
  pop_ok hI hp := by simpa only [hp] using pop _ hI
  pop_err hI hp := by simpa only [hp] using pop _ hI
  take_ok {s n _ _} hI hp := by simpa only [hp] using take s n hI
  take_err {s n _} hI hp := by simpa only [hp] using take s n hI

/-- `Agrees.bind` for one `pop`.  `dec` reads a byte by matching on the list, so there is no
list-level function for `pop` to agree with: the two shapes of the view are the two hypotheses. -/
theorem Sim.pop_bind (S : Sim F view Inv Lax) {β : Type} {s : σ} (hI : Inv s)
    {k : Byte → σ → R (β × σ)} {out : R (β × List Byte)}
    (hnil : view s = [] → out = .error .unexpectedEnd)
    (hcons : ∀ b s', Inv s' → view s = b :: view s' → Agrees view Inv Lax (k b s') out) :
    Agrees view Inv Lax (thenG (F.pop s) k) out := by
  cases hp : F.pop s with
  | error e =>
    obtain ⟨rfl, h | h⟩ := S.pop_err hI hp
    · rw [hnil h]; exact .err_refl
    · exact .lax h
  | ok x =>
    obtain ⟨hv, hI'⟩ := S.pop_ok hI hp
    exact hcons _ _ hI' hv

theorem Sim.take_agrees (S : Sim F view Inv Lax) {s : σ} (hI : Inv s) (n : Nat) :
    Agrees view Inv Lax (F.tryTakeN s n) (takeN n (view s)) := by
  cases hp : F.tryTakeN s n with
  | error e =>
    obtain ⟨rfl, h | h⟩ := S.take_err hI hp
    · exact .inl (takeN_short h)
    · exact .inr ⟨h, rfl⟩
  | ok x =>
    obtain ⟨bs, s'⟩ := x
    obtain ⟨hv, hl, hI'⟩ := S.take_ok hI hp
    refine ⟨?_, hI'⟩
    rw [hv, ← hl]
    exact takeN_append bs (view s')

theorem decVarintLoopG_agrees (S : Sim F view Inv Lax) (bits : Nat) :
    ∀ (fuel i out : Nat) (s : σ), Inv s →
      Agrees view Inv Lax (decVarintLoopG F bits fuel i out s)
        (decVarintLoop bits fuel i out (view s))
  | 0, i, out, s, hI => .err_refl
  | fuel+1, i, out, s, hI => by
    refine S.pop_bind hI (fun h => by simp only [h, decVarintLoop]) fun b s1 hI1 h => ?_
    simp only [h, decVarintLoop]
    exact .ite (fun _ => .ite (fun _ => .err_refl) fun _ => .ok hI1)
      fun _ => decVarintLoopG_agrees S bits fuel (i+1) _ s1 hI1

theorem decVarintG_agrees (S : Sim F view Inv Lax) (bits : Nat) {s : σ} (hI : Inv s) :
    Agrees view Inv Lax (decVarintG F bits s) (decVarint bits (view s)) :=
  decVarintLoopG_agrees S bits _ _ _ s hI

theorem decNG_agrees {f : σ → R (Val × σ)} {g : List Byte → R (Val × List Byte)}
    (h : ∀ s, Inv s → Agrees view Inv Lax (f s) (g (view s))) :
    ∀ (n : Nat) (s : σ), Inv s → Agrees view Inv Lax (decNG f n s) (decN g n (view s))
  | 0, s, hI => .ok hI
  | n+1, s, hI => by
    simp only [decN]
    agrees_step (h s hI) with v s1 hI1
    agrees_step (decNG_agrees h n s1 hI1) with vs s2 hI2
    exact .ok hI2

theorem decKVG_agrees {fk fv : σ → R (Val × σ)} {gk gv : List Byte → R (Val × List Byte)}
    (hk : ∀ s, Inv s → Agrees view Inv Lax (fk s) (gk (view s)))
    (hv : ∀ s, Inv s → Agrees view Inv Lax (fv s) (gv (view s))) :
    ∀ (n : Nat) (s : σ), Inv s →
      Agrees view Inv Lax (decKVG fk fv n s) (decKV gk gv n (view s))
  | 0, s, hI => .ok hI
  | n+1, s, hI => by
    simp only [decKV]
    agrees_step (hk s hI) with k s1 hI1
    agrees_step (hv s1 hI1) with v s2 hI2
    agrees_step (decKVG_agrees hk hv n s2 hI2) with kvs s3 hI3
    exact .ok hI3

theorem decCharG_agrees (S : Sim F view Inv Lax) {s : σ} (hI : Inv s) :
    Agrees view Inv Lax (decCharG F s) (decChar (view s)) := by
  simp only [decChar]
  agrees_step (decVarintG_agrees S 64 hI) with sz s1 hI1
  refine .ite (fun _ => .err_refl) fun _ => ?_
  agrees_step (S.take_agrees hI1 sz) with b s2 hI2
  refine .ite (fun _ => ?_) fun _ => .err_refl
  cases hu : utf8Next b with
  | none => exact .err_refl
  | some x =>
    obtain ⟨c, rest⟩ := x
    cases rest with
    | nil => exact .ok hI2
    | cons _ _ => exact .err_refl

mutual
theorem decG_agrees (S : Sim F view Inv Lax) : ∀ (t : Ty) (s : σ), Inv s →
    Agrees view Inv Lax (decG F t s) (dec t (view s))
  | .bool, s, hI => by
    refine S.pop_bind hI (fun h => by simp only [h, dec]) fun b s1 hI1 h => ?_
    simp only [h, dec]
    exact .ite (fun _ => .ok hI1) fun _ => .ite (fun _ => .ok hI1) fun _ => .err_refl
  | .u w, s, hI | .i w, s, hI => by
    cases w
    case w8 =>
      refine S.pop_bind hI (fun h => by simp only [h, dec]) fun b s1 hI1 h => ?_
      simp only [h, dec]
      exact .ok hI1
    all_goals
      simp only [dec]
      agrees_step (decVarintG_agrees S _ hI) with n s1 hI1
      exact .ok hI1
  | .f32, s, hI | .f64, s, hI => by
    simp only [dec]
    agrees_step (S.take_agrees hI _) with b s1 hI1
    exact .ok hI1
  | .char, s, hI => decCharG_agrees S hI
  | .str, s, hI => by
    simp only [dec]
    agrees_step (decVarintG_agrees S 64 hI) with sz s1 hI1
    agrees_step (S.take_agrees hI1 sz) with b s2 hI2
    exact .ite (fun _ => .ok hI2) fun _ => .err_refl
  | .bytes, s, hI => by
    simp only [dec]
    agrees_step (decVarintG_agrees S 64 hI) with sz s1 hI1
    agrees_step (S.take_agrees hI1 sz) with b s2 hI2
    exact .ok hI2
  | .option t, s, hI => by
    refine S.pop_bind hI (fun h => by simp only [h, dec]) fun b s1 hI1 h => ?_
    simp only [h, dec]
    refine .ite (fun _ => .ok hI1) fun _ => .ite (fun _ => ?_) fun _ => .err_refl
    agrees_step (decG_agrees S t s1 hI1) with v s2 hI2
    exact .ok hI2
  | .unit, s, hI | .unitStruct, s, hI => .ok hI
  | .newtypeStruct t, s, hI => by
    simp only [dec]
    agrees_step (decG_agrees S t s hI) with v s1 hI1
    exact .ok hI1
  | .seq t, s, hI => by
    simp only [dec]
    agrees_step (decVarintG_agrees S 64 hI) with n s1 hI1
    agrees_step (decNG_agrees (decG_agrees S t) n s1 hI1) with vs s2 hI2
    exact .ok hI2
  | .tuple ts, s, hI | .tupleStruct ts, s, hI | .struct ts, s, hI => by
    simp only [dec]
    agrees_step (decTupleG_agrees S ts s hI) with vs s1 hI1
    exact .ok hI1
  | .map k v, s, hI => by
    simp only [dec]
    agrees_step (decVarintG_agrees S 64 hI) with n s1 hI1
    agrees_step (decKVG_agrees (decG_agrees S k) (decG_agrees S v) n s1 hI1) with kvs s2 hI2
    exact .ok hI2
  | .enum vts, s, hI => by
    simp only [dec]
    agrees_step (decVarintG_agrees S 32 hI) with idx s1 hI1
    exact decVariantG_agrees S vts idx idx s1 hI1
  | .any, s, hI | .identifier, s, hI | .ignoredAny, s, hI => .err_refl
theorem decTupleG_agrees (S : Sim F view Inv Lax) : ∀ (ts : List Ty) (s : σ), Inv s →
    Agrees view Inv Lax (decTupleG F ts s) (decTuple ts (view s))
  | [], s, hI => .ok hI
  | t :: ts, s, hI => by
    simp only [decTuple]
    agrees_step (decG_agrees S t s hI) with v s1 hI1
    agrees_step (decTupleG_agrees S ts s1 hI1) with vs s2 hI2
    exact .ok hI2
theorem decVariantG_agrees (S : Sim F view Inv Lax) : ∀ (vts : List Ty) (k idx : Nat) (s : σ),
    Inv s → Agrees view Inv Lax (decVariantG F vts k idx s) (decVariant vts k idx (view s))
  | [], k, idx, s, hI => .err_refl
  | vt :: rest, 0, idx, s, hI => by
    cases vt
    case unit => exact .ok hI
    case newtypeStruct t =>
      simp only [decVariant]
      agrees_step (decG_agrees S t s hI) with v s1 hI1
      exact .ok hI1
    case tuple ts | struct ts =>
      simp only [decVariant]
      agrees_step (decTupleG_agrees S ts s hI) with vs s1 hI1
      exact .ok hI1
    -- an ill-formed variant descriptor: both sides evaluate to `.error .custom`
    all_goals exact .err_refl
  | vt :: rest, k+1, idx, s, hI => decVariantG_agrees S rest k idx s hI
end

end generic

theorem decVariantG_some {σ : Type} (F : DeFlavor σ) : ∀ (vts : List Ty) (k idx : Nat) (s : σ)
    (vt : Ty), vts[k]? = some vt → decVariantG F vts k idx s = decVariantG F [vt] 0 idx s
  | [], _, _, _, _, h => nomatch h
  | v :: _, 0, _, _, _, h => by cases h; cases v <;> rfl
  | _ :: rest, k+1, idx, s, vt, h => decVariantG_some F rest k idx s vt h

theorem decG_uN {σ : Type} (F : DeFlavor σ) {w : IntW} (hw : w ≠ .w8) (s : σ) :
    decG F (.u w) s = thenG (decVarintG F w.bits s) fun n s' => .ok (.u w n, s') := by
  cases w
  · exact absurd rfl hw
  all_goals rfl

theorem decG_iN {σ : Type} (F : DeFlavor σ) {w : IntW} (hw : w ≠ .w8) (s : σ) :
    decG F (.i w) s = thenG (decVarintG F w.bits s) fun n s' => .ok (.i w (unzigzag n), s') := by
  cases w
  · exact absurd rfl hw
  all_goals rfl

/-- one `pop`: the byte read is `mem[cursor]` with `cursor < end ≤ mem.length`. -/
theorem slice_pop_in_bounds (s : SliceDeSt) (h1 : s.cursor ≤ s.end_) (h2 : s.end_ ≤ s.mem.length) :
    (s.cursor = s.end_ ∧ SliceDe.pop s = .error .unexpectedEnd) ∨
    (∃ h : s.cursor < s.mem.length, s.cursor < s.end_ ∧
      SliceDe.pop s = .ok (s.mem[s.cursor], { s with cursor := s.cursor + 1 })) := by
  by_cases hc : s.cursor = s.end_
  · exact .inl ⟨hc, if_pos hc⟩
  · have hlt : s.cursor < s.mem.length := by omega
    refine .inr ⟨hlt, by omega, (if_neg hc).trans ?_⟩
    rw [List.getElem?_eq_getElem hlt]

/-- one `try_take_n(ct)`: the range read is `mem[cursor .. cursor+ct]` with
`cursor + ct ≤ end ≤ mem.length`, or nothing is read. -/
theorem slice_take_in_bounds (s : SliceDeSt) (ct : Nat) (h1 : s.cursor ≤ s.end_)
    (h2 : s.end_ ≤ s.mem.length) :
    (s.end_ - s.cursor < ct ∧ SliceDe.tryTakeN s ct = .error .unexpectedEnd) ∨
    (s.cursor + ct ≤ s.end_ ∧
      SliceDe.tryTakeN s ct =
        .ok (s.mem.extract s.cursor (s.cursor + ct), { s with cursor := s.cursor + ct })) := by
  by_cases hc : s.end_ - s.cursor < ct
  · exact .inl ⟨hc, if_pos hc⟩
  · exact .inr ⟨by omega, (if_neg hc).trans (if_neg (by omega))⟩

def SliceDeSt.view (s : SliceDeSt) : List Byte := (s.mem.take s.end_).drop s.cursor

def SliceDeSt.Inv (mem : List Byte) (e c0 : Nat) (s : SliceDeSt) : Prop :=
  s.mem = mem ∧ s.end_ = e ∧ c0 ≤ s.cursor ∧ s.cursor ≤ e ∧ e ≤ mem.length

theorem SliceDeSt.view_length (s : SliceDeSt) (h : s.end_ ≤ s.mem.length) :
    s.view.length = s.end_ - s.cursor := by
  rw [SliceDeSt.view, List.length_drop, List.length_take, Nat.min_eq_left h]

theorem SliceDeSt.view_split (s : SliceDeSt) (n : Nat) (h : s.cursor + n ≤ s.end_) :
    s.view = s.mem.extract s.cursor (s.cursor + n) ++
      ({ s with cursor := s.cursor + n } : SliceDeSt).view := by
  simp only [SliceDeSt.view, List.extract_eq_take_drop, Nat.add_sub_cancel_left]
  have : List.take n (List.drop s.cursor s.mem)
      = List.take n (List.take (s.end_ - s.cursor) (List.drop s.cursor s.mem)) := by
    rw [List.take_take, Nat.min_eq_left (by omega)]
  rw [← List.drop_drop, List.drop_take, this, List.take_append_drop]

theorem SliceDe.sim (mem : List Byte) (e c0 : Nat) :
    Sim SliceDe SliceDeSt.view (SliceDeSt.Inv mem e c0) False := by
  refine .of_cases ?_ ?_
  · rintro s ⟨rfl, rfl, hc0, hce, hl⟩
    obtain ⟨hc, h⟩ | ⟨hlt, hlt', h⟩ := slice_pop_in_bounds s hce hl
    · rw [h]
      exact ⟨rfl, .inl (List.eq_nil_of_length_eq_zero (by rw [s.view_length hl, hc, Nat.sub_self]))⟩
    · rw [h]
      refine ⟨?_, rfl, rfl, Nat.le_succ_of_le hc0, hlt', hl⟩
      rw [s.view_split 1 hlt', List.extract_eq_take_drop, Nat.add_sub_cancel_left,
        List.drop_eq_getElem_cons hlt]
      rfl
  · rintro s n ⟨rfl, rfl, hc0, hce, hl⟩
    obtain ⟨hc, h⟩ | ⟨hfit, h⟩ := slice_take_in_bounds s n hce hl
    · rw [h]
      exact ⟨rfl, .inl (by rw [s.view_length hl]; exact hc)⟩
    · rw [h]
      refine ⟨s.view_split n hfit, ?_, rfl, rfl, Nat.le_add_right_of_le hc0, hfit, hl⟩
      rw [List.extract_eq_take_drop, List.length_take, List.length_drop, Nat.add_sub_cancel_left]
      exact Nat.min_eq_left (Nat.le_sub_of_add_le (Nat.add_comm n _ ▸ Nat.le_trans hfit hl))

theorem SliceDeSt.view_new (bs : List Byte) : (SliceDeSt.new bs).view = bs := by
  simp [SliceDeSt.view, SliceDeSt.new]

theorem SliceDeSt.inv_new (bs : List Byte) :
    SliceDeSt.Inv bs bs.length 0 (SliceDeSt.new bs) :=
  ⟨rfl, rfl, Nat.le_refl _, Nat.zero_le _, Nat.le_refl _⟩

theorem SliceDe.finalize_eq_view (s : SliceDeSt) : SliceDe.finalize s = s.view := by
  simp [SliceDe.finalize, SliceDeSt.view, List.extract_eq_take_drop, List.drop_take]

theorem faultOk_iff {f : Option Nat} {n : Nat} :
    faultOk f n = true ↔ ∀ k, f = some k → n ≤ k := by
  cases f <;> simp [faultOk]

theorem faultOk_zero (f : Option Nat) : faultOk f 0 = true := by
  cases f <;> simp [faultOk]

theorem mkSlots_append : ∀ (a b : List Nat) (off : Nat),
    mkSlots off (a ++ b) = mkSlots off a ++ mkSlots (off + a.sum) b
  | [], b, off => by simp [mkSlots]
  | x :: a, b, off => by
    simp only [List.cons_append, mkSlots, List.sum_cons, mkSlots_append a b, Nat.add_assoc]

/-- slots are pairwise disjoint, in increasing order, inside `[0, cap)`. -/
def SlotsOk (cap : Nat) (slots : List (Nat × Nat)) : Prop :=
  slots.Pairwise (fun a b => a.1 + a.2 ≤ b.1) ∧ ∀ a ∈ slots, a.1 + a.2 ≤ cap

/-- the slots of one run are a tiling like the slots of a `SlidingBuffer` (`SBuf.Inv`,
Props/C04Scratch). -/
theorem mkSlots_tiles : ∀ (lens : List Nat) (off : Nat),
    slotsBelow (mkSlots off lens) off (off + lens.sum)
  | [], _ => Nat.le_refl _
  | n :: ns, off =>
    ⟨Nat.le_refl _, by rw [List.sum_cons, ← Nat.add_assoc]; exact mkSlots_tiles ns (off + n)⟩

theorem mkSlots_ok {lens : List Nat} {off cap : Nat} (h : off + lens.sum ≤ cap) :
    SlotsOk cap (mkSlots off lens) :=
  ⟨slotsBelow_pairwise (mkSlots_tiles lens off),
    fun a ha => Nat.le_trans (slotsBelow_mem (mkSlots_tiles lens off) a ha).2 h⟩

theorem mkSlots_lengths : ∀ (lens : List Nat) (off : Nat), (mkSlots off lens).map (·.2) = lens
  | [], off => rfl
  | n :: ns, off => by simp [mkSlots, mkSlots_lengths ns]

theorem needList_eq_sum : ∀ (vs : List Val), needList vs = (vs.map need).sum
  | [] => rfl
  | v :: vs => congrArg (need v + ·) (needList_eq_sum vs)

mutual
theorem need_eq_sum_leaves : ∀ (v : Val), need v = (leaves v).sum
  | .bool _ | .u _ _ | .i _ _ | .none | .unit | .unitStruct | .unitVariant _
  | .f32 _ | .f64 _ | .char _ | .str _ | .bytes _ => rfl
  | .some v | .newtypeStruct v | .newtypeVariant _ v => need_eq_sum_leaves v
  | .seq vs | .tuple vs | .tupleStruct vs | .tupleVariant _ vs | .map vs | .struct vs
  | .structVariant _ vs => needList_eq_sum_leaves vs
theorem needList_eq_sum_leaves : ∀ (vs : List Val), needList vs = (leavesList vs).sum
  | [] => rfl
  | v :: vs => by
    show need v + needList vs = (leaves v ++ leavesList vs).sum
    rw [List.sum_append, need_eq_sum_leaves v, needList_eq_sum_leaves vs]
end

/-- what a run that reads `len` bytes and takes slots of total size `nd` needs of the state:
enough scratch left, and no fault before the last byte read (a run that reads nothing asks
nothing of the reader). -/
def IOReaderSt.fits (st : IOReaderSt) (nd len : Nat) : Prop :=
  nd ≤ st.scratchCap - st.scratchUsed ∧
  (len = 0 ∨ faultOk st.fault (st.delivered + len) = true)

instance (st : IOReaderSt) (nd len : Nat) : Decidable (st.fits nd len) := by
  unfold IOReaderSt.fits; infer_instance

def IOReaderSt.adv (st : IOReaderSt) (len : Nat) (lens : List Nat) : IOReaderSt :=
  { st with stream := st.stream.drop len, delivered := st.delivered + len,
            scratchUsed := st.scratchUsed + lens.sum,
            slots := st.slots ++ mkSlots st.scratchUsed lens }

def ioRes {α : Type} (st : IOReaderSt) (a : α) (len : Nat) (lens : List Nat) :
    R (α × IOReaderSt) :=
  if st.fits lens.sum len then .ok (a, st.adv len lens) else .error .unexpectedEnd

theorem IOReaderSt.adv_zero (st : IOReaderSt) : st.adv 0 [] = st := by
  simp [IOReaderSt.adv, mkSlots]

theorem IOReaderSt.adv_adv (st : IOReaderSt) (l1 l2 : Nat) (ls1 ls2 : List Nat) :
    (st.adv l1 ls1).adv l2 ls2 = st.adv (l1 + l2) (ls1 ++ ls2) := by
  simp only [IOReaderSt.adv, List.drop_drop, List.sum_append, mkSlots_append, Nat.add_assoc,
    List.append_assoc]

theorem IOReaderSt.adv_stream {st : IOReaderSt} {p r : List Byte} (h : st.stream = p ++ r)
    (lens : List Nat) : (st.adv p.length lens).stream = r := by
  simp [IOReaderSt.adv, h]

theorem IOReaderSt.fits_add (st : IOReaderSt) {l1 l2 : Nat} {ls1 ls2 : List Nat} :
    st.fits (ls1 ++ ls2).sum (l1 + l2) ↔
      st.fits ls1.sum l1 ∧ (st.adv l1 ls1).fits ls2.sum l2 := by
  -- scratch and fault are independent meters: one small arithmetic fact each
  have hS : ∀ a b c u : Nat, a + b ≤ c - u ↔ a ≤ c - u ∧ b ≤ c - (u + a) := fun a b c u => by
    rw [Nat.sub_add_eq]; generalize c - u = m; omega
  have hF : (l1 + l2 = 0 ∨ faultOk st.fault (st.delivered + (l1 + l2)) = true) ↔
      (l1 = 0 ∨ faultOk st.fault (st.delivered + l1) = true) ∧
        (l2 = 0 ∨ faultOk st.fault (st.delivered + l1 + l2) = true) := by
    cases st.fault with
    | none => simp only [faultOk, or_true, and_true]
    | some k => simp only [faultOk, decide_eq_true_eq]; omega
  rw [List.sum_append]
  exact (and_congr (hS ..) hF).trans and_and_and_comm

theorem ioRes_pure {α : Type} (st : IOReaderSt) (a : α) : ioRes st a 0 [] = .ok (a, st) := by
  simp [ioRes, IOReaderSt.fits, IOReaderSt.adv_zero]

theorem ioRes_ok {α : Type} {st st' : IOReaderSt} {a a' : α} {l : Nat} {ls : List Nat}
    (h : ioRes st a l ls = .ok (a', st')) : a' = a ∧ st' = st.adv l ls ∧ st.fits ls.sum l := by
  unfold ioRes at h
  split at h
  · cases h; exact ⟨rfl, rfl, ‹_›⟩
  · cases h

/-- On every stream that starts with `p` the run `f` of the reader flavour returns `a`, having read
exactly `p` into slots of lengths `ls`, iff the resources suffice. -/
def IORuns {α : Type} (f : IOReaderSt → R (α × IOReaderSt)) (a : α) (p : List Byte)
    (ls : List Nat) : Prop :=
  ∀ (st : IOReaderSt) (r : List Byte), st.stream = p ++ r → f st = ioRes st a p.length ls

section
variable {α β : Type} {f : IOReaderSt → R (α × IOReaderSt)}
  {k : α → IOReaderSt → R (β × IOReaderSt)} {a : α} {b : β} {p q : List Byte} {ls ls' : List Nat}

theorem IORuns.pure (hf : ∀ st, f st = .ok (a, st)) : IORuns f a [] [] :=
  fun st _ _ => (hf st).trans (ioRes_pure st a).symm

theorem IORuns.bind (hf : IORuns f a p ls) (hk : IORuns (k a) b q ls') :
    IORuns (fun st => thenG (f st) k) b (p ++ q) (ls ++ ls') := fun st r hs => by
  have hs := hs.trans (List.append_assoc ..)
  have hk := hk _ r (IOReaderSt.adv_stream hs ls)
  show thenG (f st) k = _
  rw [hf st _ hs, List.length_append]
  unfold ioRes at hk ⊢
  by_cases h1 : st.fits ls.sum p.length
  · rw [if_pos h1, thenG_ok, hk]
    by_cases h2 : (st.adv p.length ls).fits ls'.sum q.length
    · rw [if_pos h2, if_pos (st.fits_add.2 ⟨h1, h2⟩), IOReaderSt.adv_adv]
    · rw [if_neg h2, if_neg (fun h => h2 (st.fits_add.1 h).2)]
  · rw [if_neg h1, thenG_error, if_neg (fun h => h1 (st.fits_add.1 h).1)]

theorem IORuns.map (hf : IORuns f a p ls) (hk : ∀ st, k a st = .ok (b, st)) :
    IORuns (fun st => thenG (f st) k) b p ls := by
  simpa only [List.append_nil] using hf.bind (.pure hk)

end

theorem IOReaderSt.readExact_ok {st st' : IOReaderSt} {n : Nat} {bs : List Byte}
    (h : st.readExact n = .ok (bs, st')) :
    bs = st.stream.take n ∧
    st' = { st with stream := st.stream.drop n, delivered := st.delivered + n } ∧
    n ≤ st.stream.length := by
  unfold IOReaderSt.readExact at h
  split at h
  · cases h
  · split at h
    · cases h; exact ⟨rfl, rfl, by omega⟩
    · cases h

theorem IOReaderSt.readExact_err {st : IOReaderSt} {n : Nat} {e : Err}
    (h : st.readExact n = .error e) : e = .unexpectedEnd := by
  unfold IOReaderSt.readExact at h
  split at h
  · cases h; rfl
  · split at h
    · cases h
    · cases h; rfl

theorem io_pop (b : Byte) : IORuns IOReader.pop b [b] [] := fun st r hs => by
  simp [IOReader, hs, ioRes, IOReaderSt.fits, IOReaderSt.adv, mkSlots]

theorem io_take {bs : List Byte} {n : Nat} (hn : bs.length = n) :
    IORuns (fun st => IOReader.tryTakeN st n) bs bs [n] := fun st r hs => by
  subst hn
  -- `take_n` on the scratch, then `read_exact`: the stream is long enough (`hs`), the fault decides
  have hlen : ¬ (bs ++ r).length < bs.length := by rw [List.length_append]; omega
  simp only [IOReader, IOReaderSt.readExact, hs, ioRes, IOReaderSt.fits, IOReaderSt.adv, mkSlots,
    List.sum_cons, List.sum_nil, Nat.add_zero, if_neg hlen, List.take_left', List.drop_left']
  by_cases h1 : st.scratchCap - st.scratchUsed < bs.length
  · rw [if_pos h1, if_neg (fun h => Nat.not_le.2 h1 h.1)]
  · rw [if_neg h1]
    by_cases h2 : bs.length = 0 ∨ faultOk st.fault (st.delivered + bs.length) = true
    · rw [if_pos h2, if_pos ⟨Nat.not_lt.1 h1, h2⟩]
    · rw [if_neg h2, if_neg (fun h => h2 h.2)]

theorem io_varintLoop (bits : Nat) :
    ∀ (fuel i out : Nat) (bs : List Byte) (n : Nat) (r : List Byte),
    decVarintLoop bits fuel i out bs = .ok (n, r) →
    ∃ p, bs = p ++ r ∧ IORuns (decVarintLoopG IOReader bits fuel i out) n p []
  | 0, _, _, _, _, _, h => nomatch h
  | _+1, _, _, [], _, _, h => nomatch h
  | fuel+1, i, out, b :: rest, n, r, h => by
    simp only [decVarintLoop] at h
    split at h
    · next hterm =>
      split at h
      · cases h
      · next hbad =>
        cases h
        exact ⟨[b], rfl, (io_pop b).map fun _ => by simp only [hterm, if_true, hbad, if_false]⟩
    · next hterm =>
      obtain ⟨p, rfl, hp⟩ := io_varintLoop bits fuel (i+1) _ rest n r h
      exact ⟨b :: p, rfl, (io_pop b).bind fun st r hs => (if_neg hterm).trans (hp st r hs)⟩

theorem io_varint {bits n : Nat} {p : List Byte} (hb : WidthOk bits)
    (hp : PermittedVarint bits n p) :
    IORuns (decVarintG IOReader bits) n p [] := by
  obtain ⟨p', h, he⟩ := io_varintLoop bits _ 0 0 _ n [] (decVarint_permitted hb hp [])
  obtain rfl : p = p' := by simpa only [List.append_nil] using h
  exact he

-- by recursion on the value; the derivation says which clause of `decG` applies
mutual
theorem io_permitted : ∀ {t : Ty} {v : Val} {p : List Byte}, Permitted t v p →
    IORuns (decG IOReader t) v p (leaves v)
  | _, _, _, .boolFalse | _, _, _, .none _ => (io_pop 0).map fun _ => if_pos rfl
  | _, _, _, .boolTrue => (io_pop 1).map fun _ => (if_neg (by decide)).trans (if_pos rfl)
  | _, _, _, .u8 _ | _, _, _, .i8 _ => (io_pop _).map fun _ => rfl
  | _, _, _, .uN w n p hw hp | _, _, _, .iN w n p hw hp => by
    cases w
    · exact absurd rfl hw
    all_goals exact (io_varint (IntW.widthOk hw) hp).map fun _ => rfl
  | _, _, _, .f32 bs hl | _, _, _, .f64 bs hl => (io_take hl).map fun _ => rfl
  | _, _, _, .char c p hc hp => (io_varint widthOk64 hp).bind fun st r hs =>
    (if_neg (Nat.not_lt.2 (utf8Encode_length_le c))).trans <|
      ((io_take rfl).map fun _ => by
        simp only [utf8Valid_encode hc, if_true, utf8Next_encode_nil hc]) st r hs
  | _, _, _, .str s p hp hu => (io_varint widthOk64 hp).bind ((io_take rfl).map fun _ => if_pos hu)
  | _, _, _, .bytes s p hp => (io_varint widthOk64 hp).bind ((io_take rfl).map fun _ => rfl)
  | _, _, _, .some t v p h => (io_pop 1).bind fun st r hs =>
    (if_neg (by decide)).trans ((if_pos rfl).trans (((io_permitted h).map fun _ => rfl) st r hs))
  | _, _, _, .unit | _, _, _, .unitStruct => .pure fun _ => rfl
  | _, _, _, .newtypeStruct t v p h => (io_permitted h).map fun _ => rfl
  | _, _, _, .seq t vs p q hp hq =>
    (io_varint widthOk64 hp).bind (IORuns.map (io_permittedAll hq) fun _ => rfl)
  | _, _, _, .tuple _ _ _ h | _, _, _, .tupleStruct _ _ _ h
  | _, _, _, .struct _ _ _ h => IORuns.map (io_permittedTuple h) fun _ => rfl
  | _, _, _, .map k v kvs p q hp hq =>
    (io_varint widthOk64 hp).bind (IORuns.map (io_permittedKV hq) fun _ => rfl)
  -- `io_permittedVariant` written out: a call on the same `v` is not a structural recursion
  | _, _, _, .enum vts idx vt v p q hp hvt hq => (io_varint widthOk32 hp).bind fun st r hs =>
    (decVariantG_some _ vts idx idx st vt hvt).trans <| match vt, v, q, hq with
      | _, _, _, .unit _ => IORuns.pure (fun _ => rfl) st r hs
      | _, _, _, .newtype t _ v q h => ((io_permitted h).map fun _ => rfl) st r hs
      | _, _, _, .tuple _ _ _ _ h | _, _, _, .struct _ _ _ _ h =>
        (IORuns.map (io_permittedTuple h) fun _ => rfl) st r hs
termination_by structural _ v => v
theorem io_permittedTuple : ∀ {ts : List Ty} {vs : List Val} {p : List Byte},
    PermittedTuple ts vs p → ∀ (st : IOReaderSt) (r : List Byte), st.stream = p ++ r →
    decTupleG IOReader ts st = ioRes st vs p.length (leavesList vs)
  | _, _, _, .nil => IORuns.pure fun _ => rfl
  | _, _, _, .cons t ts v vs p q h1 h2 =>
    (io_permitted h1).bind (IORuns.map (io_permittedTuple h2) fun _ => rfl)
termination_by structural _ vs => vs
theorem io_permittedAll : ∀ {t : Ty} {vs : List Val} {p : List Byte},
    PermittedAll t vs p → ∀ (st : IOReaderSt) (r : List Byte), st.stream = p ++ r →
    decNG (decG IOReader t) vs.length st = ioRes st vs p.length (leavesList vs)
  | _, _, _, .nil t => IORuns.pure fun _ => rfl
  | _, _, _, .cons t v vs p q h1 h2 =>
    (io_permitted h1).bind (IORuns.map (io_permittedAll h2) fun _ => rfl)
termination_by structural _ vs => vs
theorem io_permittedKV : ∀ {k v : Ty} {kvs : List Val} {p : List Byte},
    PermittedKV k v kvs p → ∀ (st : IOReaderSt) (r : List Byte), st.stream = p ++ r →
    decKVG (decG IOReader k) (decG IOReader v) (kvs.length / 2) st
      = ioRes st kvs p.length (leavesList kvs)
  | _, _, _, _, .nil k v => IORuns.pure fun _ => rfl
  | _, _, _, _, .cons k v x y kvs p q s h1 h2 h3 => by
    rw [length_pair_div_two, List.append_assoc]
    exact (io_permitted h1).bind
      ((io_permitted h2).bind (IORuns.map (io_permittedKV h3) fun _ => rfl))
termination_by structural _ _ kvs => kvs
end

theorem io_permittedVariant : ∀ {vt : Ty} {idx : Nat} {v : Val} {p : List Byte},
    PermittedVariant vt idx v p → ∀ (st : IOReaderSt) (r : List Byte), st.stream = p ++ r →
    decVariantG IOReader [vt] 0 idx st = ioRes st v p.length (leaves v)
  | _, _, _, _, .unit idx => IORuns.pure fun _ => rfl
  | _, _, _, _, .newtype t idx v p h => (io_permitted h).map fun _ => rfl
  | _, _, _, _, .tuple _ _ _ _ h | _, _, _, _, .struct _ _ _ _ h =>
    IORuns.map (io_permittedTuple h) fun _ => rfl

theorem io_pop_nil {st : IOReaderSt} (hs : st.stream = []) :
    IOReader.pop st = .error .unexpectedEnd := by
  simp only [IOReader, hs]

theorem io_take_short {st : IOReaderSt} {n : Nat} (hn : st.stream.length < n) :
    IOReader.tryTakeN st n = .error .unexpectedEnd := by
  simp only [IOReader, IOReaderSt.readExact, if_pos hn]
  split <;> rfl

theorem IOReader.sim : Sim IOReader IOReaderSt.stream (fun _ => True) True := by
  refine .of_cases (fun st _ => ?_) fun st n _ => ?_
  · cases hs : st.stream with
    | nil => rw [io_pop_nil hs]; exact ⟨rfl, .inr trivial⟩
    | cons b r =>
      rw [io_pop b st r hs, ioRes]
      by_cases hf : st.fits [].sum [b].length
      · rw [if_pos hf]; exact ⟨by rw [IOReaderSt.adv_stream (p := [b]) hs], trivial⟩
      · rw [if_neg hf]; exact ⟨rfl, .inr trivial⟩
  · by_cases hn : st.stream.length < n
    · rw [io_take_short hn]; exact ⟨rfl, .inr trivial⟩
    · have hn := List.length_take_of_le (Nat.le_of_not_lt hn)
      have hs := (List.take_append_drop n st.stream).symm
      rw [show IOReader.tryTakeN st n = _ from io_take hn st _ hs, ioRes]
      by_cases hf : st.fits [n].sum (st.stream.take n).length
      · rw [if_pos hf]; exact ⟨by rw [IOReaderSt.adv_stream hs]; exact hs, hn, trivial⟩
      · rw [if_neg hf]; exact ⟨rfl, .inr trivial⟩

theorem WriteFlF.step_eq (fl : Bool) (s : WriterSt) (c : Chunk) :
    (WriteFlF fl).step s c = s.writeAll c.bytes := by
  cases c <;> rfl

theorem WriteFl.step_eq (s : WriterSt) (c : Chunk) : WriteFl.step s c = s.writeAll c.bytes :=
  WriteFlF.step_eq true s c

/-- Whatever the call boundaries: a refused `write_all` keeps the prefix that fits (so `WriteFlF`
is not an `Atomic` storage). -/
theorem WriteFlF.feed_eq_writeAll (fl : Bool) (cs : List Chunk) : ∀ (s : WriterSt),
    (∀ k, s.failAt = some k → s.written.length ≤ k) →
    (WriteFlF fl).feed s cs = s.writeAll (chunkBytes cs) := by
  induction cs with
  | nil =>
    rintro ⟨w, _ | k⟩ h
    · simp [Flavor.feed, WriterSt.writeAll]
    · simp [Flavor.feed, WriterSt.writeAll, h k rfl]
  | cons c cs ih =>
    rintro ⟨w, _ | k⟩ h
    · -- no fault index
      simp only [Flavor.feed, WriteFlF.step_eq, WriterSt.writeAll, chunkBytes_cons]
      rw [ih _ (fun _ hk => by cases hk)]
      simp only [WriterSt.writeAll, List.append_assoc]
    · have hw := h k rfl
      simp only [Flavor.feed, WriteFlF.step_eq, WriterSt.writeAll, chunkBytes_cons,
        List.length_append] at hw ⊢
      by_cases hfit : w.length + c.bytes.length ≤ k
      · -- the call fits below the fault index: the rest is fed to the longer sink
        rw [if_pos hfit]
        simp only
        rw [ih _ (fun _ hk => by cases hk; simpa using hfit)]
        simp only [WriterSt.writeAll, List.length_append, List.append_assoc, Nat.add_assoc,
          List.take_append, List.take_of_length_le (show c.bytes.length ≤ k - w.length by omega),
          Nat.sub_sub]
      · -- the fault index lies in this call: `feed` stops with the prefix that fits
        rw [if_neg hfit, if_neg (by omega), List.take_append,
          Nat.sub_eq_zero_of_le (by omega : k - w.length ≤ c.bytes.length)]
        simp

/-- `to_io` is one `write_all` of the whole encoding, then `flush`. -/
theorem serializeWith_writeFlF (fl : Bool) (v : Val) (s : WriterSt)
    (h : ∀ k, s.failAt = some k → s.written.length ≤ k) :
    serializeWith (WriteFlF fl) s v =
      match s.writeAll (enc v), fl with
      | (s', none), true => (s', .ok s'.written)
      | (s', _), _ => (s', .error .bufferFull) := by
  unfold serializeWith
  rw [WriteFlF.feed_eq_writeAll fl _ s h, chunkBytes_emit]
  rcases s with ⟨w, _ | k⟩
  · cases fl <;> rfl
  · simp only [WriterSt.writeAll]
    by_cases hk : w.length + (enc v).length ≤ k
    · rw [if_pos hk]; cases fl <;> rfl
    · rw [if_neg hk]

end Postcard
