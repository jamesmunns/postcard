import Postcard.Spec.Conforms
import Postcard.Model.SchemaImpls
import Postcard.Lemmas.Varint
import Postcard.Lemmas.RoundTrip
import Postcard.Lemmas.SchemaSer
/-
  What Props/C14.lean rests on: call trees of schema values and equality up to type names (the
  `.schema` kind), the schema-driven reader on conforming encodings (`sr_conforms`), and what
  `callTree` emits against `schemaOf` (`callTree_sound`).
-/
namespace Postcard

theorem idxOf_eq (o : Bool) (k : SchemaKind) : idxOf o k = idxOwned k := by
  cases o
  · exact tables_equal k
  · rfl

theorem dataIdxOf_eq (o : Bool) (k : DataKind) : dataIdxOf o k = dataIdxOwned k := by
  cases o
  · exact data_tables_equal k
  · rfl

theorem eqModTy_erase_all :
    (∀ a b, CT.eqModTy a b = true → a.erase = b.erase) ∧
    (∀ as bs, CT.eqModTyList as bs = true → CT.eraseList as = CT.eraseList bs) := by
  apply CT.eqModTy.mutual_induct
  -- the two catch-all clauses `_, _`: not equal
  case case23 | case26 =>
    intros
    rename_i h
    simp [CT.eqModTy, CT.eqModTyList, *] at h
  -- every other clause: the payloads that `eqModTy` compares are the ones `erase` keeps
  all_goals intros
  all_goals simp_all only [CT.eqModTy, CT.eqModTyList, CT.erase, CT.eraseList, Bool.and_eq_true,
    decide_eq_true_eq]

theorem eqModTy_erase (a b : CT) (h : CT.eqModTy a b = true) : a.erase = b.erase :=
  eqModTy_erase_all.1 a b h

theorem eqModTyList_erase : ∀ (as bs : List CT), CT.eqModTyList as bs = true →
    CT.eraseList as = CT.eraseList bs :=
  eqModTy_erase_all.2

-- the call tree of a schema value, either family: erasing its names gives `serOwned`
-- (the two index tables agree: C15 `tables_equal`), the witness finder finds the schema it was
-- made from, and the two families differ in type names only.
theorem ctSchema_facts (o : Bool) :
    (∀ s, (ctSchema o s).erase = serOwned s ∧ toSchema (ctSchema o s) = some s ∧
      CT.eqModTy (ctSchema o s) (ctSchema true s) = true) ∧
    (∀ vs, CT.eraseList (ctSchemaVariants o vs) = serOwnedVariants vs ∧
      toVariants (ctSchemaVariants o vs) = some vs ∧
      CT.eqModTyList (ctSchemaVariants o vs) (ctSchemaVariants true vs) = true) ∧
    (∀ d, (ctSchemaData o d).erase = serOwnedData d ∧ toData (ctSchemaData o d) = some d ∧
      CT.eqModTy (ctSchemaData o d) (ctSchemaData true d) = true) ∧
    (∀ fs, CT.eraseList (ctSchemaFields o fs) = serOwnedFields fs ∧
      toFields (ctSchemaFields o fs) = some fs ∧
      CT.eqModTyList (ctSchemaFields o fs) (ctSchemaFields true fs) = true) ∧
    (∀ ts, CT.eraseList (ctSchemaList o ts) = serOwnedList ts ∧
      toSchemaList (ctSchemaList o ts) = some ts ∧
      CT.eqModTyList (ctSchemaList o ts) (ctSchemaList true ts) = true) := by
  apply ctSchema.mutual_induct
  all_goals intros
  all_goals simp only [ctSchema, ctSchemaData, ctSchemaList, ctSchemaVariants, ctSchemaFields,
    CT.erase, CT.eraseList, serOwned, serOwnedData, serOwnedList, serOwnedVariants, serOwnedFields,
    toSchema, toSchemaSeq, toSchemaList, toNameData, toNameVariants, toData, toFieldsSeq, toFields,
    toField, toNameTy, toVariants, toVariant, toNameDataV, leafOfKind, CT.eqModTy, CT.eqModTyList,
    idxOf_eq, dataIdxOf_eq, kindOfIdxOwned_idxOwned, dataKindOfIdxOwned_dataIdxOwned,
    Option.map_some, decide_true, Bool.and_self, and_self, *]

theorem erase_ctSchema (o : Bool) : ∀ s : Schema, (ctSchema o s).erase = serOwned s :=
  fun x => ((ctSchema_facts o).1 x).1

theorem erase_ctSchemaList (o : Bool) : ∀ ts : List Schema,
    CT.eraseList (ctSchemaList o ts) = serOwnedList ts :=
  fun x => ((ctSchema_facts o).2.2.2.2 x).1

theorem erase_ctSchemaData (o : Bool) : ∀ d : SData, (ctSchemaData o d).erase = serOwnedData d :=
  fun x => ((ctSchema_facts o).2.2.1 x).1

theorem erase_ctSchemaFields (o : Bool) : ∀ fs : List SField,
    CT.eraseList (ctSchemaFields o fs) = serOwnedFields fs :=
  fun x => ((ctSchema_facts o).2.2.2.1 x).1

theorem erase_ctSchemaVariants (o : Bool) : ∀ vs : List SVariant,
    CT.eraseList (ctSchemaVariants o vs) = serOwnedVariants vs :=
  fun x => ((ctSchema_facts o).2.1 x).1

theorem toSchema_ctSchema (o : Bool) : ∀ s : Schema, toSchema (ctSchema o s) = some s :=
  fun x => ((ctSchema_facts o).1 x).2.1

theorem toSchemaList_ctSchema (o : Bool) : ∀ ts : List Schema,
    toSchemaList (ctSchemaList o ts) = some ts :=
  fun x => ((ctSchema_facts o).2.2.2.2 x).2.1

theorem toData_ctSchema (o : Bool) : ∀ d : SData, toData (ctSchemaData o d) = some d :=
  fun x => ((ctSchema_facts o).2.2.1 x).2.1

theorem toFields_ctSchema (o : Bool) : ∀ fs : List SField,
    toFields (ctSchemaFields o fs) = some fs :=
  fun x => ((ctSchema_facts o).2.2.2.1 x).2.1

theorem toVariants_ctSchema (o : Bool) : ∀ vs : List SVariant,
    toVariants (ctSchemaVariants o vs) = some vs :=
  fun x => ((ctSchema_facts o).2.1 x).2.1

theorem eqModTy_ctSchema (o : Bool) : ∀ s : Schema,
    CT.eqModTy (ctSchema o s) (ctSchema true s) = true :=
  fun x => ((ctSchema_facts o).1 x).2.2

theorem eqModTy_ctSchemaList (o : Bool) : ∀ ts : List Schema,
    CT.eqModTyList (ctSchemaList o ts) (ctSchemaList true ts) = true :=
  fun x => ((ctSchema_facts o).2.2.2.2 x).2.2

theorem eqModTy_ctSchemaData (o : Bool) : ∀ d : SData,
    CT.eqModTy (ctSchemaData o d) (ctSchemaData true d) = true :=
  fun x => ((ctSchema_facts o).2.2.1 x).2.2

theorem eqModTy_ctSchemaFields (o : Bool) : ∀ fs : List SField,
    CT.eqModTyList (ctSchemaFields o fs) (ctSchemaFields true fs) = true :=
  fun x => ((ctSchema_facts o).2.2.2.1 x).2.2

theorem eqModTy_ctSchemaVariants (o : Bool) : ∀ vs : List SVariant,
    CT.eqModTyList (ctSchemaVariants o vs) (ctSchemaVariants true vs) = true :=
  fun x => ((ctSchema_facts o).2.1 x).2.2

theorem wfVal_serOwned_all :
    (∀ s, (serOwned s).wfVal = s.wf) ∧
    (∀ vs, Val.wfValList (serOwnedVariants vs) = SVariant.wfList vs) ∧
    (∀ d, (serOwnedData d).wfVal = d.wf) ∧
    (∀ fs, Val.wfValList (serOwnedFields fs) = SField.wfList fs) ∧
    (∀ ts, Val.wfValList (serOwnedList ts) = Schema.wfList ts) := by
  apply serOwned.mutual_induct
  all_goals intros
  -- `Schema.wf` asks of names and list lengths what `wfVal` asks of `.str` and `.seq`;
  -- the variant indices are numerals below `2 ^ 32`
  all_goals simp only [serOwned, serOwnedData, serOwnedList, serOwnedVariants, serOwnedFields,
    Val.wfVal, Val.wfValList, Schema.wf, SData.wf, Schema.wfList, SVariant.wfList, SField.wfList,
    idxOwned, dataIdxOwned, nameOk, serOwnedList_length, serOwnedFields_length,
    serOwnedVariants_length, Bool.and_assoc, Bool.and_true, Bool.true_and, Nat.reducePow,
    Nat.reduceLT, decide_true, *]

theorem wfVal_serOwned : ∀ s : Schema, (serOwned s).wfVal = s.wf :=
  wfVal_serOwned_all.1

theorem wfVal_serOwnedList : ∀ ts : List Schema,
    Val.wfValList (serOwnedList ts) = Schema.wfList ts :=
  wfVal_serOwned_all.2.2.2.2

theorem wfVal_serOwnedData : ∀ d : SData, (serOwnedData d).wfVal = d.wf :=
  wfVal_serOwned_all.2.2.1

theorem wfVal_serOwnedFields : ∀ fs : List SField,
    Val.wfValList (serOwnedFields fs) = SField.wfList fs :=
  wfVal_serOwned_all.2.2.2.1

theorem wfVal_serOwnedVariants : ∀ vs : List SVariant,
    Val.wfValList (serOwnedVariants vs) = SVariant.wfList vs :=
  wfVal_serOwned_all.2.1

theorem isSchemaTree_ctSchema (o : Bool) (s : Schema) : isSchemaTree (ctSchema o s) = true := by
  unfold isSchemaTree
  rw [toSchema_ctSchema]
  exact eqModTy_ctSchema o s

theorem isSchemaTree_erase {c : CT} (h : isSchemaTree c = true) :
    ∃ s', c.erase = serOwned s' := by
  unfold isSchemaTree at h
  split at h
  · rename_i s' _
    exact ⟨s', by rw [eqModTy_erase _ _ h, erase_ctSchema]⟩
  · simp at h

theorem conforms_schema (c : CT) : conforms c .schema = isSchemaTree c := by
  cases c <;> rfl

theorem sr_schema (c : CT) (h : isSchemaTree c = true) (hw : c.wfVal = true) (fuel : Nat)
    (hf : (enc c.erase).length < fuel) (rest : List Byte) :
    schemaParse fuel .schema (enc c.erase ++ rest) = .ok (c.erase, rest) := by
  obtain ⟨s', hs⟩ := isSchemaTree_erase h
  have hwf : s'.wf = true := by
    rw [← wfVal_serOwned, ← hs]
    exact hw
  rw [hs] at hf ⊢
  -- `decOwned` wants fuel for every node of `s'`, and each node occupies at least one byte
  have hsz : s'.size ≤ fuel := Nat.le_of_lt (Nat.lt_of_le_of_lt (size_le_enc s') hf)
  unfold schemaParse
  rw [rt_schema varint_rt_32_64 s' fuel rest hsz hwf]

theorem schemaParseVariant_getElem (fuel idx : Nat) (bs : List Byte) {vn : Name} {d : SData} :
    ∀ (vs : List SVariant) (k : Nat), vs[k]? = some (.mk vn d) →
      schemaParseVariant fuel vs k idx bs = schemaParseData fuel (some idx) d bs
  | [], _, h => by simp at h
  | .mk _ _ :: _, 0, h => by
    simp only [List.getElem?_cons_zero, Option.some.injEq, SVariant.mk.injEq] at h
    simp only [schemaParseVariant, h.2]
  | _ :: vs, k + 1, h => by
    simp only [List.getElem?_cons_succ] at h
    simp only [schemaParseVariant, schemaParseVariant_getElem fuel idx bs vs k h]

theorem schemaParse_enum (fuel : Nat) (n : Name) {vs : List SVariant} {idx : Nat} {vn : Name}
    {d : SData} (hg : vs[idx]? = some (.mk vn d)) (hi : idx < 2 ^ 32) (bs : List Byte) :
    schemaParse fuel (.enum n vs) (encVarint 32 idx ++ bs) =
      schemaParseData fuel (some idx) d bs := by
  unfold schemaParse
  simp only [decVarint_encVarint widthOk32 hi, schemaParseVariant_getElem fuel idx bs vs idx hg]

theorem schemaParse_of_uKind {s : Schema} {w : IntW} (h : uKindOf s = some w) (fuel : Nat)
    (bs : List Byte) : schemaParse fuel s bs = dec (.u w) bs := by
  cases s <;> cases h <;> rfl

theorem schemaParse_of_iKind {s : Schema} {w : IntW} (h : iKindOf s = some w) (fuel : Nat)
    (bs : List Byte) : schemaParse fuel s bs = dec (.i w) bs := by
  cases s <;> cases h <;> rfl

/-- C14: a reader that knows only the schema consumes every conforming encoding exactly.
By functional induction: one case per clause of `conforms`, `conformsFields`, `conformsKV`,
`conformsList`, `conformsAll`, in this order (the order of `conforms.mutual_induct`).
`conformsKV` alternates between key and value position, so its statement has a second half:
in value position the list completes whole pairs behind any key that has been read. -/
theorem sr_conforms (fuel : Nat) :
    (∀ c s, conforms c s = true → c.wfVal = true → (enc c.erase).length < fuel → ∀ rest,
      schemaParse fuel s (enc c.erase ++ rest) = .ok (c.erase, rest)) ∧
    (∀ ns cs fs, conformsFields ns cs fs = true → Val.wfValList (CT.eraseList cs) = true →
      (encList (CT.eraseList cs)).length < fuel → ∀ rest,
      schemaParseFields fuel fs (encList (CT.eraseList cs) ++ rest)
        = .ok (CT.eraseList cs, rest)) ∧
    (∀ isKey kvs k v, conformsKV isKey kvs k v = true →
      Val.wfValList (CT.eraseList kvs) = true → (encList (CT.eraseList kvs)).length < fuel →
      ∀ rest, match isKey with
        | true =>
          decKV (schemaParse fuel k) (schemaParse fuel v) ((CT.eraseList kvs).length / 2)
            (encList (CT.eraseList kvs) ++ rest) = .ok (CT.eraseList kvs, rest)
        | false => ∀ x, (∀ r, schemaParse fuel k (enc x ++ r) = .ok (x, r)) →
          decKV (schemaParse fuel k) (schemaParse fuel v) ((x :: CT.eraseList kvs).length / 2)
            (encList (x :: CT.eraseList kvs) ++ rest) = .ok (x :: CT.eraseList kvs, rest)) ∧
    (∀ cs ts, conformsList cs ts = true → Val.wfValList (CT.eraseList cs) = true →
      (encList (CT.eraseList cs)).length < fuel → ∀ rest,
      schemaParseList fuel ts (encList (CT.eraseList cs) ++ rest) = .ok (CT.eraseList cs, rest)) ∧
    (∀ cs t, conformsAll cs t = true → Val.wfValList (CT.eraseList cs) = true →
      (encList (CT.eraseList cs)).length < fuel → ∀ rest,
      decN (schemaParse fuel t) (CT.eraseList cs).length (encList (CT.eraseList cs) ++ rest)
        = .ok (CT.eraseList cs, rest)) := by
  apply conforms.mutual_induct
  -- leaf kinds: the reader is `dec` at the matching type, and there `wfVal` is `hasTy`
  case case2 =>  -- .u w _, s
    intro w n s h hw _ rest
    rw [schemaParse_of_uKind (of_decide_eq_true h)]
    exact dec_complete
      (permitted_enc (.u w n) (.u w) (Bool.and_eq_true_iff.2 ⟨decide_eq_true rfl, hw⟩)) rest
  case case3 =>  -- .i w _, s
    intro w x s h hw _ rest
    rw [schemaParse_of_iKind (of_decide_eq_true h)]
    exact dec_complete
      (permitted_enc (.i w x) (.i w) (Bool.and_eq_true_iff.2 ⟨decide_eq_true rfl, hw⟩)) rest
  -- .bool .f32 .f64 .char .str/.string .bytes/.byteArray
  case case1 | case4 | case5 | case6 | case7 | case8 =>
    intro x _ hw _ rest
    refine dec_complete (permitted_enc _ _ ?_) rest
    exact hw  -- fits once the goal has fixed value and type
  -- .none, .option _;  .unit, .unit;  .unitStruct _, .struct _ .unit
  case case9 | case11 | case15 =>
    intros
    simp [CT.erase, enc, schemaParse, schemaParseData, mkUnit]
  case case10 =>  -- .some c, .option t
    intro c t ih h hw hf rest
    simp only [CT.erase, enc, List.length_cons] at hf
    simp [CT.erase, enc, schemaParse, ih h hw (by omega) rest]
  case case12 | case14 =>  -- .seq cs, .seq t;  .map kvs, .map k v: a count, then the elements
    intros
    rename_i ih h hw hf rest
    simp only [CT.wfVal, CT.erase, Val.wfVal, enc, List.length_append, Bool.and_eq_true,
      decide_eq_true_eq] at hw hf
    simp only [CT.erase, enc, schemaParse, List.append_assoc,
      decVarint_encVarint widthOk64 hw.1, ih h hw.2 (by omega) rest]
  case case13 =>  -- .tuple cs, .tuple ts
    intro cs ts ih h hw hf rest
    simp only [CT.erase, enc, schemaParse, ih h hw hf rest]
  -- .newtypeStruct / .tupleStruct / .struct against `.struct _` of that data kind
  case case16 | case17 | case18 =>
    intros
    rename_i ih h hw hf rest
    simp only [CT.erase, enc, schemaParse, schemaParseData, mkNewtype, mkTuple, mkStruct,
      ih h hw hf rest]
  case case19 =>  -- .unitVariant _ idx vn, .enum _ vs; vs[idx]? a unit variant
    intro _ idx vn n vs vn' hg _ hw _ rest
    simp only [CT.erase, enc, schemaParse_enum fuel n hg (of_decide_eq_true hw), schemaParseData,
      mkUnit]
  -- newtype / tuple / struct variant against `.enum _ vs`, `vs[idx]?` a variant of that kind
  case case21 | case23 | case25 =>
    intros
    rename_i hg ih h hw hf rest
    simp only [conforms, hg, CT.wfVal, CT.erase, Val.wfVal, enc, List.length_append,
      Bool.and_eq_true, decide_eq_true_eq] at h hw hf
    simp only [CT.erase, enc, List.append_assoc, schemaParse_enum fuel _ hg hw.1, schemaParseData,
      mkNewtype, mkTuple, mkStruct, ih h.2 hw.2 (by omega) rest]
  -- the catch-all clauses, and a variant call against an enum whose `vs[idx]?` is not a variant
  -- of that kind: not conforming
  case case20 | case22 | case24 | case26 | case30 | case33 | case38 =>
    intros
    rename_i h _ _ _
    simp [conforms, conformsFields, conformsList, *] at h
  case case27 | case28 | case29 =>  -- a unit / newtype / struct variant call, .schema
    intros
    rename_i h hw hf rest
    exact sr_schema _ h hw fuel hf rest
  case case31 | case36 | case39 =>  -- empty lists
    intros
    simp [CT.eraseList, encList, schemaParseFields, schemaParseList, decN]
  case case32 =>  -- n :: ns, c :: cs, .mk n' t :: fs
    intro n ns c cs n' t fs ih1 ih2 h hw hf rest
    simp only [conformsFields, CT.eraseList, Val.wfValList, encList, List.length_append,
      Bool.and_eq_true] at h hw hf
    simp only [CT.eraseList, encList, schemaParseFields, List.append_assoc,
      ih1 h.1.2 hw.1 (by omega), ih2 h.2 hw.2 (by omega) rest]
  case case34 =>  -- isKey, [], _, _
    intro isKey _ _ h _ _ rest
    simp only [conformsKV] at h
    subst h
    simp [CT.eraseList, encList, decKV]
  case case35 =>  -- isKey, x :: xs, k, v
    intro isKey x xs k v ih1 ih2 h hw hf rest
    simp only [conformsKV, CT.eraseList, Val.wfValList, encList, List.length_append,
      Bool.and_eq_true] at h hw hf
    cases isKey
    · intro y hy  -- `x` is the value of the key `y`; behind the pair, whole pairs
      have hx : ∀ r, schemaParse fuel v (enc x.erase ++ r) = .ok (x.erase, r) :=
        ih1 h.1 hw.1 (by omega)
      have hxs := ih2 h.2 hw.2 (by omega) rest
      simp only [Bool.not_false] at hxs
      simp only [CT.eraseList, length_pair_div_two, encList, decKV, List.append_assoc, hy, hx, hxs]
    · exact ih2 h.2 hw.2 (by omega) rest _ (ih1 h.1 hw.1 (by omega))  -- `x` is the key read
  case case37 | case40 =>  -- c :: cs, t :: ts;  c :: cs, t
    intros
    rename_i ih1 ih2 h hw hf rest
    simp only [conformsList, conformsAll, CT.eraseList, Val.wfValList, encList,
      List.length_append, Bool.and_eq_true] at h hw hf
    simp only [CT.eraseList, encList, schemaParseList, decN, List.append_assoc, List.length_cons,
      ih1 h.1 hw.1 (by omega), ih2 h.2 hw.2 (by omega) rest]

theorem sr_list : (cs : List CT) → (ts : List Schema) → conformsList cs ts = true →
    Val.wfValList (CT.eraseList cs) = true → (fuel : Nat) →
    (encList (CT.eraseList cs)).length < fuel → (rest : List Byte) →
    schemaParseList fuel ts (encList (CT.eraseList cs) ++ rest) = .ok (CT.eraseList cs, rest) :=
  fun cs ts h hw fuel hf rest => (sr_conforms fuel).2.2.2.1 cs ts h hw hf rest

theorem sr_all : (cs : List CT) → (t : Schema) → conformsAll cs t = true →
    Val.wfValList (CT.eraseList cs) = true → (fuel : Nat) →
    (encList (CT.eraseList cs)).length < fuel → (rest : List Byte) →
    decN (schemaParse fuel t) (CT.eraseList cs).length (encList (CT.eraseList cs) ++ rest)
      = .ok (CT.eraseList cs, rest) :=
  fun cs t h hw fuel hf rest => (sr_conforms fuel).2.2.2.2 cs t h hw hf rest

theorem sr_kv : (kvs : List CT) → (k v : Schema) → conformsKV true kvs k v = true →
    Val.wfValList (CT.eraseList kvs) = true → (fuel : Nat) →
    (encList (CT.eraseList kvs)).length < fuel → (rest : List Byte) →
    decKV (schemaParse fuel k) (schemaParse fuel v) ((CT.eraseList kvs).length / 2)
      (encList (CT.eraseList kvs) ++ rest) = .ok (CT.eraseList kvs, rest) :=
  fun kvs k v h hw fuel hf rest => (sr_conforms fuel).2.2.1 true kvs k v h hw hf rest

theorem sr_fields : (ns : List Name) → (cs : List CT) → (fs : List SField) →
    conformsFields ns cs fs = true → Val.wfValList (CT.eraseList cs) = true → (fuel : Nat) →
    (encList (CT.eraseList cs)).length < fuel → (rest : List Byte) →
    schemaParseFields fuel fs (encList (CT.eraseList cs) ++ rest) = .ok (CT.eraseList cs, rest) :=
  fun ns cs fs h hw fuel hf rest => (sr_conforms fuel).2.1 ns cs fs h hw hf rest

theorem Ident.schemaName_repaired (i : Ident) : i.schemaName true = i.serdeName :=
  rfl

theorem Ident.schemaName_of_sameAsSerde {rep : Bool} {i : Ident} (h : i.sameAsSerde rep = true) :
    i.schemaName rep = i.serdeName := by
  cases rep with
  | true => exact i.schemaName_repaired
  | false =>
    -- not a raw identifier: `to_string()` puts no `r#` in front
    have hr : i.raw = false := (Bool.not_eq_true' i.raw).mp h
    unfold Ident.schemaName Ident.rawName
    rw [hr]
    rfl

theorem Ident.schemaName_of_plain {i : Ident} (h : i.plain = true) (rep : Bool) :
    i.schemaName rep = i.serdeName :=
  Ident.schemaName_of_sameAsSerde (by simp [Ident.sameAsSerde, h])

theorem namesOk_true_all :
    (∀ r : RTy, r.namesOk true = true) ∧
    (∀ vs : List DeriveVariant, DeriveVariant.namesOkList true vs = true) ∧
    (∀ d : DeriveFields, d.namesOk true = true) ∧
    (∀ fs : List DeriveField, DeriveField.namesOkList true fs = true) ∧
    (∀ ts : List RTy, RTy.namesOkList true ts = true) := by
  apply RTy.namesOk.mutual_induct
  all_goals intros
  all_goals simp only [RTy.namesOk, RTy.namesOkList, DeriveFields.namesOk,
    DeriveField.namesOkList, DeriveVariant.namesOkList, Ident.sameAsSerde, Bool.true_or,
    Bool.and_self, *]

theorem RTy.namesOk_true : ∀ r : RTy, r.namesOk true = true :=
  namesOk_true_all.1

theorem RTy.namesOkList_true : ∀ ts : List RTy, RTy.namesOkList true ts = true :=
  namesOk_true_all.2.2.2.2

theorem DeriveFields.namesOk_true : ∀ d : DeriveFields, d.namesOk true = true :=
  namesOk_true_all.2.2.1

theorem DeriveField.namesOkList_true : ∀ fs : List DeriveField,
    DeriveField.namesOkList true fs = true :=
  namesOk_true_all.2.2.2.1

theorem DeriveVariant.namesOkList_true : ∀ vs : List DeriveVariant,
    DeriveVariant.namesOkList true vs = true :=
  namesOk_true_all.2.1

theorem CT.eraseList_length (cs : List CT) : (CT.eraseList cs).length = cs.length := by
  induction cs with
  | nil => rfl
  | cons c cs ih => simp [CT.eraseList, ih]

theorem wfValList_eraseList {cs : List CT} :
    Val.wfValList (CT.eraseList cs) = true ↔ ∀ c ∈ cs, c.wfVal = true := by
  induction cs with
  | nil => simp [CT.eraseList, Val.wfValList]
  | cons c cs ih => simp [CT.eraseList, Val.wfValList, CT.wfVal, ih]

theorem conformsAll_iff {cs : List CT} {t : Schema} :
    conformsAll cs t = true ↔ ∀ c ∈ cs, conforms c t = true := by
  induction cs with
  | nil => simp [conformsAll]
  | cons c cs ih => simp [conformsAll, ih]

theorem conformsList_replicate {t : Schema} : ∀ {cs : List CT} {n : Nat}, cs.length = n →
    (∀ c ∈ cs, conforms c t = true) → conformsList cs (List.replicate n t) = true
  | [], _, hl, _ => by
    subst hl
    rfl
  | c :: cs, _, hl, h => by
    subst hl
    simp [List.replicate_succ, conformsList, h c, conformsList_replicate rfl fun c hc =>
      h c (List.mem_cons_of_mem _ hc)]

theorem conforms_uSchema (w : IntW) (n : Nat) : conforms (.u w n) (uSchema w) = true := by
  cases w <;> rfl

theorem conforms_iSchema (w : IntW) (x : Int) : conforms (.i w x) (iSchema w) = true := by
  cases w <;> rfl

/-! One lemma per call that `callTree` is made of.  Each says of what the call emits the two things
`callTree_sound` says: it is a well-formed value, and it conforms to the schema the `Schema` impl
builds from the component schemas.  The flags `a`, `b` stand for `RTy.namesOk` of the component
types, the condition under which alone their values conform. -/

theorem strCall_some {s : List Byte} {c : CT} (h : strCall s = some c) :
    c = .str s ∧ utf8Valid s = true ∧ s.length < 2 ^ 64 := by
  obtain ⟨hs, ⟨⟩⟩ := Option.ite_none_right_eq_some.1 h
  exact ⟨rfl, hs⟩

theorem seqCall_some {n : Nat} {o : Option (List CT)} {c : CT} (h : seqCall n o = some c) :
    ∃ cs, o = some cs ∧ c = .seq cs ∧ n < 2 ^ 64 := by
  obtain ⟨hl, h⟩ := Option.ite_none_right_eq_some.1 h
  obtain ⟨cs, hcs, rfl⟩ := Option.map_eq_some_iff.1 h
  exact ⟨cs, hcs, rfl, hl⟩

theorem strCall_sound {s : List Byte} {c : CT} {a : Bool} (h : strCall s = some c) :
    c.wfVal = true ∧ (a = true → conforms c .string = true) := by
  obtain ⟨rfl, h1, h2⟩ := strCall_some h
  exact ⟨Bool.and_eq_true_iff.2 ⟨h1, decide_eq_true h2⟩, fun _ => rfl⟩

/-- what a struct head / variant head built from data `d` conforms to -/
def Head.Conf (hd : Head) (c : CT) (d : SData) : Prop :=
  match hd with
  | .s _ => ∀ n, conforms c (.struct n d) = true
  | .v _ idx vn => ∀ n svs, svs[idx]? = some (.mk vn d) → conforms c (.enum n svs) = true

/-- a variant head carries a `u32` index -/
def Head.Ok : Head → Prop
  | .s _ => True
  | .v _ idx _ => idx < 2 ^ 32

theorem Head.unit_sound (hd : Head) :
    (hd.Ok → hd.unit.wfVal = true) ∧ hd.Conf hd.unit .unit := by
  cases hd with
  | s name => exact ⟨fun _ => rfl, fun n => rfl⟩
  | v e i vn =>
    exact ⟨fun hi => decide_eq_true hi, fun n svs hg => by
      unfold Head.unit conforms
      simp only [hg, decide_true]⟩

theorem Head.newtype_sound (hd : Head) {c : CT} {t : Schema} {a : Bool}
    (h : c.wfVal = true ∧ (a = true → conforms c t = true)) :
    (hd.Ok → (hd.newtype c).wfVal = true) ∧
      (a = true → hd.Conf (hd.newtype c) (.newtype t)) := by
  cases hd with
  | s name => exact ⟨fun _ => h.1, fun ha n => h.2 ha⟩
  | v e i vn =>
    exact ⟨fun hi => Bool.and_eq_true_iff.2 ⟨decide_eq_true hi, h.1⟩, fun ha n svs hg => by
      unfold Head.newtype conforms
      simp only [hg, h.2 ha, decide_true, Bool.and_self]⟩

theorem Head.tuple_sound (hd : Head) {cs : List CT} {ts : List Schema} {a : Bool}
    (h : Val.wfValList (CT.eraseList cs) = true ∧ (a = true → conformsList cs ts = true)) :
    (hd.Ok → (hd.tuple cs).wfVal = true) ∧
      (a = true → hd.Conf (hd.tuple cs) (.tuple ts)) := by
  cases hd with
  | s name => exact ⟨fun _ => h.1, fun ha n => h.2 ha⟩
  | v e i vn =>
    exact ⟨fun hi => Bool.and_eq_true_iff.2 ⟨decide_eq_true hi, h.1⟩, fun ha n svs hg => by
      unfold Head.tuple conforms
      simp only [hg, h.2 ha, decide_true, Bool.and_self]⟩

theorem Head.struct_sound (hd : Head) {ns : List Name} {cs : List CT} {fs : List SField}
    {a : Bool}
    (h : Val.wfValList (CT.eraseList cs) = true ∧ (a = true → conformsFields ns cs fs = true)) :
    (hd.Ok → (hd.struct ns cs).wfVal = true) ∧
      (a = true → hd.Conf (hd.struct ns cs) (.struct fs)) := by
  cases hd with
  | s name => exact ⟨fun _ => h.1, fun ha n => h.2 ha⟩
  | v e i vn =>
    exact ⟨fun hi => Bool.and_eq_true_iff.2 ⟨decide_eq_true hi, h.1⟩, fun ha n svs hg => by
      unfold Head.struct conforms
      simp only [hg, h.2 ha, decide_true, Bool.and_self]⟩

theorem optMap_forall {f : RV → Option CT} {P : CT → Prop}
    (hf : ∀ v c, f v = some c → P c) :
    ∀ {vs : List RV} {cs : List CT}, optMap f vs = some cs →
      cs.length = vs.length ∧ ∀ c ∈ cs, P c
  | [], cs, h => by
    cases h
    exact ⟨rfl, nofun⟩
  | v :: vs, cs, h => by
    unfold optMap at h
    split at h
    · rename_i c cs' h1 h2
      cases h
      have := optMap_forall hf h2
      exact ⟨congrArg (· + 1) this.1, List.forall_mem_cons.2 ⟨hf v c h1, this.2⟩⟩
    · cases h

section
variable {f : RV → Option CT} {t : Schema} {a : Bool}
  (hf : ∀ v c, f v = some c → c.wfVal = true ∧ (a = true → conforms c t = true))
include hf

/-- `collect_seq` -/
theorem seqCall_sound {vs : List RV} {c : CT} (h : seqCall vs.length (optMap f vs) = some c) :
    c.wfVal = true ∧ (a = true → conforms c (.seq t) = true) := by
  obtain ⟨cs, hcs, rfl, hl⟩ := seqCall_some h
  obtain ⟨hlen, hel⟩ := optMap_forall hf hcs
  exact ⟨Bool.and_eq_true_iff.2 ⟨decide_eq_true (by rwa [CT.eraseList_length, hlen]),
    wfValList_eraseList.2 fun c hc => (hel c hc).1⟩, fun ha =>
    conformsAll_iff.2 fun c hc => (hel c hc).2 ha⟩

/-- `serialize_tuple(n)` over `n` elements of one type: `[T; N]`, nalgebra's `ArrayStorage` -/
theorem arrayCall_sound {n : Nat} {vs : List RV} {c : CT}
    (h : (if vs.length = n then (optMap f vs).map .tuple else none) = some c) :
    c.wfVal = true ∧ (a = true → conforms c (.tuple (List.replicate n t)) = true) := by
  obtain ⟨hl, h⟩ := Option.ite_none_right_eq_some.1 h
  obtain ⟨cs, hcs, rfl⟩ := Option.map_eq_some_iff.1 h
  obtain ⟨hlen, hel⟩ := optMap_forall hf hcs
  exact ⟨wfValList_eraseList.2 fun c hc => (hel c hc).1, fun ha =>
    conformsList_replicate (hlen.trans hl) fun c hc => (hel c hc).2 ha⟩

/-- the ranges with two bounds; `sn` is the struct's name in the schema, which is not compared -/
theorem structCall2_sound {name n1 n2 sn : Name} {vs : List RV} {c : CT}
    (h : structCall2 name n1 n2 f vs = some c) : c.wfVal = true ∧
      (a = true → conforms c (.struct sn (.struct [.mk n1 t, .mk n2 t])) = true) := by
  unfold structCall2 at h
  split at h
  · rename_i x y
    split at h
    · rename_i cx cy hx hy
      cases h
      have hx := hf x cx hx
      have hy := hf y cy hy
      refine ⟨Bool.and_eq_true_iff.2 ⟨hx.1, Bool.and_eq_true_iff.2 ⟨hy.1, rfl⟩⟩,
        fun ha => ?_⟩
      unfold conforms
      simp only [conformsFields, hx.2 ha, hy.2 ha, decide_true, Bool.and_self]
    · cases h
  · cases h

/-- the ranges with one bound -/
theorem structCall1_sound {name n1 sn : Name} {vs : List RV} {c : CT}
    (h : structCall1 name n1 f vs = some c) :
    c.wfVal = true ∧ (a = true → conforms c (.struct sn (.struct [.mk n1 t])) = true) := by
  unfold structCall1 at h
  split at h
  · obtain ⟨cx, hx, rfl⟩ := Option.map_eq_some_iff.1 h
    have hx := hf _ cx hx
    refine ⟨Bool.and_eq_true_iff.2 ⟨hx.1, rfl⟩, fun ha => ?_⟩
    unfold conforms
    simp only [conformsFields, hx.2 ha, decide_true, Bool.and_self]
  · cases h

end

section
variable {fk fv : RV → Option CT} {k v : Schema} {a b : Bool}
  (hk : ∀ x c, fk x = some c → c.wfVal = true ∧ (a = true → conforms c k = true))
  (hv : ∀ x c, fv x = some c → c.wfVal = true ∧ (b = true → conforms c v = true))
include hk hv

theorem optMapKV_sound : ∀ {kvs : List RV} {cs : List CT}, optMapKV fk fv kvs = some cs →
    (cs.length = kvs.length ∧ ∀ c ∈ cs, c.wfVal = true) ∧
      (a = true → b = true → conformsKV true cs k v = true)
  | [], cs, h => by
    cases h
    exact ⟨⟨rfl, nofun⟩, fun _ _ => rfl⟩
  | [_], cs, h => by cases h
  | x :: y :: rest, cs, h => by
    unfold optMapKV at h
    split at h
    · rename_i ck cv cs' h1 h2 h3
      cases h
      have hx := hk x ck h1
      have hy := hv y cv h2
      obtain ⟨⟨hlen, hel⟩, hc⟩ := optMapKV_sound h3
      exact ⟨⟨congrArg (· + 2) hlen,
          List.forall_mem_cons.2 ⟨hx.1, List.forall_mem_cons.2 ⟨hy.1, hel⟩⟩⟩,
        fun ha hb =>
          Bool.and_eq_true_iff.2 ⟨hx.2 ha, Bool.and_eq_true_iff.2 ⟨hy.2 hb, hc ha hb⟩⟩⟩
    · cases h

/-- `collect_map` -/
theorem mapCall_sound {kvs : List RV} {c : CT}
    (h : (if kvs.length / 2 < 2 ^ 64 then (optMapKV fk fv kvs).map .map else none) = some c) :
    c.wfVal = true ∧ ((a && b) = true → conforms c (.map k v) = true) := by
  obtain ⟨hl, h⟩ := Option.ite_none_right_eq_some.1 h
  obtain ⟨cs, hcs, rfl⟩ := Option.map_eq_some_iff.1 h
  obtain ⟨⟨hlen, hel⟩, hc⟩ := optMapKV_sound hk hv hcs
  exact ⟨Bool.and_eq_true_iff.2 ⟨decide_eq_true (by rwa [CT.eraseList_length, hlen]),
    wfValList_eraseList.2 hel⟩, fun hab =>
    hc (Bool.and_eq_true_iff.1 hab).1 (Bool.and_eq_true_iff.1 hab).2⟩

/-- serde's `Result`; `sn` is the enum's name in the schema, which is not compared -/
theorem resultCall_sound {sn : Name} {idx : Nat} {fs : List RV} {c : CT}
    (h : resultCall fk fv idx fs = some c) : c.wfVal = true ∧ ((a && b) = true → conforms c
      (.enum sn [.mk (ascii "Ok") (.newtype k), .mk (ascii "Err") (.newtype v)]) = true) := by
  unfold resultCall at h
  split at h
  · obtain ⟨c', hc, rfl⟩ := Option.map_eq_some_iff.1 h
    have := (Head.v (ascii "Result") 0 (ascii "Ok")).newtype_sound (hk _ c' hc)
    exact ⟨this.1 (by decide : 0 < 2 ^ 32), fun hab =>
      this.2 (Bool.and_eq_true_iff.1 hab).1 _ _ rfl⟩
  · obtain ⟨c', hc, rfl⟩ := Option.map_eq_some_iff.1 h
    have := (Head.v (ascii "Result") 1 (ascii "Err")).newtype_sound (hv _ c' hc)
    exact ⟨this.1 (by decide : 1 < 2 ^ 32), fun hab =>
      this.2 (Bool.and_eq_true_iff.1 hab).2 _ _ rfl⟩
  · cases h

end

-- C14: what the impls serialise is a well-formed value and, where the derive names fields and
-- variants as serde_derive does, conforms to the schema they declare.  The scope condition
-- `RTy.wf` is not needed: `callTree` and `schemaOf` agree on a tuple of any arity and an array of
-- any length, it is the impls that exist for some only.  One induction over the impl table;
-- each row is the lemma of its call, applied to the rows of the component types.
mutual
theorem callTree_sound (rep : Bool) : (r : RTy) → (v : RV) → (c : CT) →
    callTree r v = some c →
    c.wfVal = true ∧ (r.namesOk rep = true → conforms c (schemaOf rep r) = true)
  | .uint w | .nonZeroU w => fun v c h => by
    cases v with
    | nat n =>
      obtain ⟨hr, ⟨⟩⟩ := Option.ite_none_right_eq_some.1 h
      exact ⟨by simp only [CT.wfVal, CT.erase, Val.wfVal, hr, decide_true],
        fun _ => conforms_uSchema w n⟩
    | _ => contradiction
  | .sint w | .nonZeroI w => fun v c h => by
    cases v with
    | int x =>
      obtain ⟨hr, ⟨⟩⟩ := Option.ite_none_right_eq_some.1 h
      exact ⟨by simp only [CT.wfVal, CT.erase, Val.wfVal, hr], fun _ => conforms_iSchema w x⟩
    | _ => contradiction
  | .bool | .unit => fun v c h => by
    cases v
    all_goals cases h  -- the one possible shape of `v` is left
    exact ⟨rfl, fun _ => rfl⟩
  | .f32 | .f64 | .char => fun v c h => by
    cases v with
    | nat n =>
      obtain ⟨hr, ⟨⟩⟩ := Option.ite_none_right_eq_some.1 h
      exact ⟨by simp only [CT.wfVal, CT.erase, Val.wfVal, hr, decide_true], fun _ => rfl⟩
    | _ => contradiction
  | .str | .string | .pathBuf | .dateTime => fun v c h => by
    cases v with
    | text s => exact strCall_sound h
    | _ => contradiction
  | .hString07 n | .hString08 n => fun v c h => by
    cases v with
    | text s => exact strCall_sound (Option.ite_none_right_eq_some.1 h).2
    | _ => contradiction
  | .uuid => fun v c h => by
    cases v with
    | text s =>
      obtain ⟨hl, ⟨⟩⟩ := Option.ite_none_right_eq_some.1 h
      exact ⟨decide_eq_true (by omega), fun _ => rfl⟩
    | _ => contradiction
  | .key => fun v c h => by
    cases v with
    | text s =>
      obtain ⟨hl, ⟨⟩⟩ := Option.ite_none_right_eq_some.1 h
      -- `Key([u8; 8])`: a newtype struct around a tuple of eight `u8`s
      refine ⟨wfValList_eraseList.2 fun c hc => ?_, fun _ =>
        conformsList_replicate ((List.length_map _).trans hl) fun c hc => ?_⟩
      all_goals obtain ⟨b, _, rfl⟩ := List.mem_map.1 hc
      · exact decide_eq_true b.toNat_lt
      · rfl
    | _ => contradiction
  | .dataModelType | .ownedDataModelType => fun v c h => by
    cases v with
    | schema s =>
      obtain ⟨hs, ⟨⟩⟩ := Option.ite_none_right_eq_some.1 h
      exact ⟨by simp only [CT.wfVal, erase_ctSchema, wfVal_serOwned, hs],
        fun _ => (conforms_schema _).trans (isSchemaTree_ctSchema _ s)⟩
    | _ => contradiction
  | .tuple ts => fun v c h => by
    cases v with
    | list vs =>
      obtain ⟨cs, hcs, ⟨⟩⟩ := Option.map_eq_some_iff.1 h
      exact callTrees_sound rep ts vs cs hcs
    | _ => contradiction
  | .option t => fun v c h => by
    cases v with
    | none =>
      cases h
      exact ⟨rfl, fun _ => rfl⟩
    | some v =>
      obtain ⟨c', hc, ⟨⟩⟩ := Option.map_eq_some_iff.1 h
      exact callTree_sound rep t v c' hc
    | _ => contradiction
  | .result t e => fun v c h => by
    cases v with
    | variant idx fs => exact resultCall_sound (callTree_sound rep t) (callTree_sound rep e) h
    | _ => contradiction
  | .ref t => fun v c h => callTree_sound rep t v c h
  | .slice t | .vec t | .hashSet t | .btreeSet t => fun v c h => by
    cases v with
    | list vs => exact seqCall_sound (callTree_sound rep t) h
    | _ => contradiction
  | .hVec07 t n | .hVec08 t n => fun v c h => by
    cases v with
    | list vs =>
      exact seqCall_sound (callTree_sound rep t) (Option.ite_none_right_eq_some.1 h).2
    | _ => contradiction
  | .array t _ | .matrix t _ _ => fun v c h => by
    cases v with
    | list vs => exact arrayCall_sound (callTree_sound rep t) h
    | _ => contradiction
  | .hashMap k v' | .btreeMap k v' => fun v c h => by
    cases v with
    | list vs => exact mapCall_sound (callTree_sound rep k) (callTree_sound rep v') h
    | _ => contradiction
  | .range t | .rangeInclusive t => fun v c h => by
    cases v with
    | list vs => exact structCall2_sound (callTree_sound rep t) h
    | _ => contradiction
  | .rangeFrom t | .rangeTo t => fun v c h => by
    cases v with
    | list vs => exact structCall1_sound (callTree_sound rep t) h
    | _ => contradiction
  | .dstruct id fields => fun v c h => by
    cases v with
    | list vs =>
      have := callData_sound rep fields (.s id.serdeName) vs c h
      exact ⟨this.1 trivial, fun hn => this.2 hn _⟩
    | _ => contradiction
  | .denum id variants => fun v c h => by
    cases v with
    | variant idx fs =>
      obtain ⟨hi, h⟩ := Option.ite_none_right_eq_some.1 h
      have := callVariant_sound rep variants id.serdeName idx idx fs c h
      refine ⟨this.1 hi, fun hn => ?_⟩
      obtain ⟨vn, d, hg, hc⟩ := this.2 hn
      exact hc _ _ hg
    | _ => contradiction
theorem callTrees_sound (rep : Bool) : (ts : List RTy) → (vs : List RV) → (cs : List CT) →
    callTrees ts vs = some cs → Val.wfValList (CT.eraseList cs) = true ∧
      (RTy.namesOkList rep ts = true → conformsList cs (schemaOfList rep ts) = true)
  | [] => fun vs cs h => by
    cases vs
    all_goals cases h
    exact ⟨rfl, fun _ => rfl⟩
  | t :: ts => fun vs cs h => by
    cases vs with
    | nil => contradiction
    | cons v vs =>
      simp only [callTrees] at h
      split at h
      · rename_i c cs' h1 h2
        cases h
        have h1 := callTree_sound rep t v c h1
        have h2 := callTrees_sound rep ts vs cs' h2
        refine ⟨Bool.and_eq_true_iff.2 ⟨h1.1, h2.1⟩, fun hn => ?_⟩
        have hn := Bool.and_eq_true_iff.1 hn
        exact Bool.and_eq_true_iff.2 ⟨h1.2 hn.1, h2.2 hn.2⟩
      · cases h
theorem callData_sound (rep : Bool) : (d : DeriveFields) → (hd : Head) → (vs : List RV) →
    (c : CT) → callData hd d vs = some c → (hd.Ok → c.wfVal = true) ∧
      (d.namesOk rep = true → hd.Conf c (schemaOfFields rep d))
  | .unit => fun hd vs c h => by
    cases vs
    all_goals cases h
    exact ⟨hd.unit_sound.1, fun _ => hd.unit_sound.2⟩
  | .unnamed [t] => fun hd vs c h => by
    match vs, h with
    | [], h => contradiction
    | [v], h =>
      obtain ⟨c', hc, ⟨⟩⟩ := Option.map_eq_some_iff.1 h
      have := hd.newtype_sound (callTree_sound rep t v c' hc)
      exact ⟨this.1, fun hn => this.2 (Bool.and_eq_true_iff.1 hn).1⟩
    | _ :: _ :: _, h => contradiction
  | .unnamed [] | .unnamed (_ :: _ :: _) => fun hd vs c h => by
    obtain ⟨cs, hcs, ⟨⟩⟩ := Option.map_eq_some_iff.1 h
    exact hd.tuple_sound (callTrees_sound rep _ vs cs hcs)
  | .named fs => fun hd vs c h => by
    obtain ⟨cs, hcs, ⟨⟩⟩ := Option.map_eq_some_iff.1 h
    exact hd.struct_sound (callNamed_sound rep fs vs cs hcs)
theorem callNamed_sound (rep : Bool) : (fs : List DeriveField) → (vs : List RV) →
    (cs : List CT) → callNamed fs vs = some cs → Val.wfValList (CT.eraseList cs) = true ∧
      (DeriveField.namesOkList rep fs = true →
        conformsFields (serdeFieldNames fs) cs (schemaOfNamed rep fs) = true)
  | [] => fun vs cs h => by
    cases vs
    all_goals cases h
    exact ⟨rfl, fun _ => rfl⟩
  | .mk id t :: fs => fun vs cs h => by
    cases vs with
    | nil => contradiction
    | cons v vs =>
      simp only [callNamed] at h
      split at h
      · rename_i c cs' h1 h2
        cases h
        have h1 := callTree_sound rep t v c h1
        have h2 := callNamed_sound rep fs vs cs' h2
        refine ⟨Bool.and_eq_true_iff.2 ⟨h1.1, h2.1⟩, fun hn => ?_⟩
        simp only [DeriveField.namesOkList, Bool.and_eq_true] at hn
        simp only [schemaOfNamed, serdeFieldNames, conformsFields,
          Ident.schemaName_of_sameAsSerde hn.1.1, h1.2 hn.1.2, h2.2 hn.2, decide_true,
          Bool.and_self]
      · cases h
theorem callVariant_sound (rep : Bool) : (vars : List DeriveVariant) → (ename : Name) →
    (idx k : Nat) → (vs : List RV) → (c : CT) → callVariant ename idx vars k vs = some c →
    (idx < 2 ^ 32 → c.wfVal = true) ∧
      (DeriveVariant.namesOkList rep vars = true →
        ∃ vn d, (schemaOfVariants rep vars)[k]? = some (.mk vn d) ∧
          (Head.v ename idx vn).Conf c d)
  | [] => fun _ _ _ _ _ h => by cases h
  | .mk id d :: rest => fun ename idx k vs c h => by
    cases k with
    | zero =>
      have := callData_sound rep d (.v ename idx id.serdeName) vs c h
      refine ⟨this.1, fun hn => ?_⟩
      simp only [DeriveVariant.namesOkList, Bool.and_eq_true] at hn
      refine ⟨id.serdeName, schemaOfFields rep d, ?_, this.2 hn.1.2⟩
      simp only [schemaOfVariants, Ident.schemaName_of_sameAsSerde hn.1.1,
        List.getElem?_cons_zero]
    | succ k =>
      have := callVariant_sound rep rest ename idx k vs c h
      refine ⟨this.1, fun hn => ?_⟩
      simp only [DeriveVariant.namesOkList, Bool.and_eq_true] at hn
      obtain ⟨vn, d', hg, hc⟩ := this.2 hn.2
      exact ⟨vn, d', by simpa only [schemaOfVariants, List.getElem?_cons_succ] using hg, hc⟩
end

theorem sc_data (rep : Bool) : (d : DeriveFields) → d.wf = true → d.namesOk rep = true →
    (hd : Head) → (vs : List RV) → (c : CT) →
    callData hd d vs = some c → hd.Conf c (schemaOfFields rep d) :=
  fun d _ hn hd vs c h => (callData_sound rep d hd vs c h).2 hn

theorem sc_named (rep : Bool) : (fs : List DeriveField) → DeriveField.wfList fs = true →
    DeriveField.namesOkList rep fs = true → (vs : List RV) →
    (cs : List CT) → callNamed fs vs = some cs →
    conformsFields (serdeFieldNames fs) cs (schemaOfNamed rep fs) = true :=
  fun fs _ hn vs cs h => (callNamed_sound rep fs vs cs h).2 hn

theorem sc_variant (rep : Bool) : (vars : List DeriveVariant) →
    DeriveVariant.wfList vars = true → DeriveVariant.namesOkList rep vars = true →
    (ename : Name) → (idx k : Nat) → (vs : List RV) → (c : CT) →
    callVariant ename idx vars k vs = some c →
    ∃ vn d, (schemaOfVariants rep vars)[k]? = some (.mk vn d) ∧
      (Head.v ename idx vn).Conf c d :=
  fun vars _ hn ename idx k vs c h => (callVariant_sound rep vars ename idx k vs c h).2 hn

theorem cw_list : (ts : List RTy) → (vs : List RV) → (cs : List CT) →
    callTrees ts vs = some cs → Val.wfValList (CT.eraseList cs) = true :=
  fun ts vs cs h => (callTrees_sound true ts vs cs h).1

theorem cw_data : (d : DeriveFields) → (hd : Head) → hd.Ok → (vs : List RV) → (c : CT) →
    callData hd d vs = some c → c.wfVal = true :=
  fun d hd hok vs c h => (callData_sound true d hd vs c h).1 hok

theorem cw_named : (fs : List DeriveField) → (vs : List RV) → (cs : List CT) →
    callNamed fs vs = some cs → Val.wfValList (CT.eraseList cs) = true :=
  fun fs vs cs h => (callNamed_sound true fs vs cs h).1

theorem cw_variant : (vars : List DeriveVariant) → (ename : Name) → (idx : Nat) →
    idx < 2 ^ 32 → (k : Nat) → (vs : List RV) → (c : CT) →
    callVariant ename idx vars k vs = some c → c.wfVal = true :=
  fun vars ename idx hi k vs c h => (callVariant_sound true vars ename idx k vs c h).1 hi

end Postcard
