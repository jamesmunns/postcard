import Postcard.Lemmas.Flavor
namespace Postcard

/-- the contract the COBS modifier needs from its inner flavour. -/
structure LawfulIdx {σ : Type} (F : Flavor σ (List Byte)) where
  /-- the bytes accepted so far (= what `finalize` will hand out) -/
  log : σ → List Byte
  /-- `room s n`: at least `n` more bytes can be pushed -/
  room : σ → Nat → Prop
  push_ok : ∀ s n b, room s (n + 1) →
    ∃ s', F.tryPush s b = (s', none) ∧ log s' = log s ++ [b] ∧ room s' n
  setAt_ok : ∀ s i b, i < (log s).length →
    ∃ s', F.setAt s i b = some s' ∧ log s' = (log s).set i b ∧ ∀ n, room s n → room s' n
  finalize_ok : ∀ s, (F.finalize s).2 = .ok (log s)

def LawfulIdx.allocVec : LawfulIdx AllocVec where
  log s := s
  room _ _ := True
  push_ok s _ b _ := ⟨s ++ [b], rfl, rfl, trivial⟩
  setAt_ok s i b h := ⟨s.set i b, AllocVec.setAt_eq s i b h, rfl, fun _ _ => trivial⟩
  finalize_ok _ := rfl

def LawfulIdx.hvec : LawfulIdx HVec where
  log s := s.vec
  room s n := s.vec.length + n ≤ s.cap
  push_ok s n b h := by
    refine ⟨{ s with vec := s.vec ++ [b] }, ?_, rfl, ?_⟩
    · exact if_pos (show s.vec.length < s.cap by omega)
    · simp; omega
  setAt_ok s i b h :=
    ⟨{ s with vec := s.vec.set i b }, if_pos h, rfl, fun n hn => (List.length_set ..).symm ▸ hn⟩
  finalize_ok _ := rfl

def LawfulIdx.slice : LawfulIdx Slice where
  log s := s.mem.take s.cursor
  room s n := s.cursor + n ≤ s.mem.length
  push_ok s n b h := by
    obtain ⟨h1, h2⟩ := Slice.tryPush_of_lt b (show s.cursor < s.mem.length by omega)
    exact ⟨_, h1, h2, by simp; omega⟩
  setAt_ok s i b h := by
    have hi : i < s.mem.length := Nat.lt_of_lt_of_le h (List.length_take_le' ..)
    exact ⟨{ s with mem := s.mem.set i b }, if_pos hi, List.take_set,
      fun n hn => (List.length_set ..).symm ▸ hn⟩
  finalize_ok _ := rfl

theorem LawfulIdx.hvec_room {cap n : Nat} (h : n ≤ cap) : LawfulIdx.hvec.room ⟨cap, []⟩ n :=
  Nat.le_trans (Nat.le_of_eq (Nat.zero_add n)) h

theorem LawfulIdx.slice_room {buf : List Byte} {n : Nat} (h : n ≤ buf.length) :
    LawfulIdx.slice.room ⟨buf, 0⟩ n :=
  Nat.le_trans (Nat.le_of_eq (Nat.zero_add n)) h

/-- in a `valid` state a push has two outcomes only, appended or `SerializeBufferFull`: no panic. -/
structure LawfulIdx.Total {σ : Type} {F : Flavor σ (List Byte)} (L : LawfulIdx F) where
  valid : σ → Prop
  push_total : ∀ s b, valid s →
    (∃ s', F.tryPush s b = (s', none) ∧ L.log s' = L.log s ++ [b] ∧ valid s') ∨
    (∃ s', F.tryPush s b = (s', some .bufferFull))
  setAt_valid : ∀ s i b s', valid s → F.setAt s i b = some s' → valid s'

def LawfulIdx.allocVecTotal : LawfulIdx.allocVec.Total where
  valid _ := True
  push_total s b _ := Or.inl ⟨s ++ [b], rfl, rfl, trivial⟩
  setAt_valid _ _ _ _ _ _ := trivial

def LawfulIdx.hvecTotal : LawfulIdx.hvec.Total where
  valid _ := True
  push_total s b _ := by
    by_cases h : s.vec.length < s.cap
    · exact Or.inl ⟨{ s with vec := s.vec ++ [b] }, if_pos h, rfl, trivial⟩
    · exact Or.inr ⟨s, if_neg h⟩
  setAt_valid _ _ _ _ _ _ := trivial

def LawfulIdx.sliceTotal : LawfulIdx.slice.Total where
  valid s := s.cursor ≤ s.mem.length
  push_total s b hv := by
    by_cases h : s.cursor = s.mem.length
    · exact Or.inr ⟨s, if_pos h⟩
    · have hlt : s.cursor < s.mem.length := Nat.lt_of_le_of_ne hv h
      obtain ⟨h1, h2⟩ := Slice.tryPush_of_lt b hlt
      exact Or.inl ⟨_, h1, h2, by rw [List.length_set]; exact hlt⟩
  setAt_valid s i b s' hv h := by
    by_cases hi : i < s.mem.length
    · cases (if_pos hi).symm.trans h
      exact Nat.le_trans hv (Nat.le_of_eq (List.length_set ..).symm)
    · cases (if_neg hi).symm.trans h

section
variable {σ : Type} {F : Flavor σ (List Byte)}

/-- the contract the COBS run is analysed over.  `valid n s`: the storage is in order and may
still be asked for `n` pushes; `stuck`: what is known of it after a refusal. -/
structure LawfulIdx.Refusing (L : LawfulIdx F) where
  valid : Nat → σ → Prop
  stuck : σ → Prop
  push_total : ∀ n s b, valid (n + 1) s →
    (∃ s', F.tryPush s b = (s', none) ∧ L.log s' = L.log s ++ [b] ∧ valid n s') ∨
    (∃ s', F.tryPush s b = (s', some .bufferFull) ∧ stuck s')
  setAt_valid : ∀ n s i b s', valid n s → i < (L.log s).length → F.setAt s i b = some s' →
    valid n s'

variable {L : LawfulIdx F}

theorem LawfulIdx.Refusing.setAt_ok (R : L.Refusing) (s : σ) {i : Nat} (b : Byte)
    (hi : i < (L.log s).length) :
    ∃ s1, F.setAt s i b = some s1 ∧ L.log s1 = (L.log s).set i b ∧
      ∀ n, R.valid n s → R.valid n s1 := by
  obtain ⟨s1, h1, hl1, _⟩ := L.setAt_ok s i b hi
  exact ⟨s1, h1, hl1, fun n hv => R.setAt_valid n s i b s1 hv hi h1⟩

theorem LawfulIdx.Refusing.extend (R : L.Refusing) (ws : List Byte) :
    ∀ k s, R.valid (ws.length + k) s →
    (∃ s', defaultExtend F.tryPush s ws = (s', none) ∧ L.log s' = L.log s ++ ws ∧ R.valid k s') ∨
    (∃ s', defaultExtend F.tryPush s ws = (s', some .bufferFull) ∧ R.stuck s') := by
  induction ws with
  | nil => exact fun k s hv => .inl ⟨s, rfl, (List.append_nil _).symm, by simpa using hv⟩
  | cons b ws ih =>
    intro k s hv
    rw [List.length_cons, Nat.add_right_comm] at hv
    rcases R.push_total _ s b hv with ⟨s1, h1, hl1, hv1⟩ | ⟨s1, h1, hx⟩
    · rcases ih k s1 hv1 with ⟨s2, h2, hl2, hv2⟩ | ⟨s2, h2, hx⟩
      · exact .inl ⟨s2, by simp only [defaultExtend, h1, h2], by rw [hl2, hl1]; simp, hv2⟩
      · exact .inr ⟨s2, by simp only [defaultExtend, h1, h2], hx⟩
    · exact .inr ⟨s1, by simp only [defaultExtend, h1], hx⟩

def LawfulIdx.Refusing.ofRoom (L : LawfulIdx F) : L.Refusing where
  valid n s := L.room s n
  stuck _ := False
  push_total n s b h := .inl (L.push_ok s n b h)
  setAt_valid n s i b s' h hi hs := by
    obtain ⟨s1, h1, _, hr⟩ := L.setAt_ok s i b hi
    cases hs.symm.trans h1
    exact hr n h

theorem LawfulIdx.extend_ok (L : LawfulIdx F) (bs : List Byte) (s : σ) (k : Nat)
    (h : L.room s (bs.length + k)) :
    ∃ s', defaultExtend F.tryPush s bs = (s', none) ∧ L.log s' = L.log s ++ bs ∧ L.room s' k :=
  ((LawfulIdx.Refusing.ofRoom L).extend bs k s h).resolve_right fun ⟨_, _, hx⟩ => hx

def LawfulIdx.Total.refusing (T : L.Total) : L.Refusing where
  valid _ := T.valid
  stuck _ := True
  push_total _ s b hv := (T.push_total s b hv).imp id fun ⟨s', h⟩ => ⟨s', h, trivial⟩
  setAt_valid _ s i b s' hv _ h := T.setAt_valid s i b s' hv h

/-- what the COBS modifier needs of an all-or-nothing storage `A` started in `s0`, beyond
`Atomic`. -/
structure Atomic.Indexed (A : Atomic F) (L : LawfulIdx F) (s0 : σ) : Prop where
  used0 : A.used s0 = 0
  log_app : ∀ l, L.log (A.app s0 l) = l
  setAt_app : ∀ l i b, l.length ≤ A.cap s0 → i < l.length →
    F.setAt (A.app s0 l) i b = some (A.app s0 (l.set i b))

/-- `K`: the number of bytes to be written in all, so that a refusal (it comes exactly at
`l.length = A.cap s0`) shows `A.cap s0 < K`. -/
def Atomic.Indexed.refusing {A : Atomic F} {s0 : σ} (I : A.Indexed L s0) (K : Nat) :
    L.Refusing where
  valid n s := ∃ l, l.length ≤ A.cap s0 ∧ l.length + n = K ∧ s = A.app s0 l
  stuck s := A.cap s0 < K ∧ ∃ l, l.length = A.cap s0 ∧ s = A.app s0 l
  push_total n s b := by
    rintro ⟨l, hl, hK, rfl⟩
    have hu : A.used (A.app s0 l) = l.length := by rw [A.used_app, I.used0, Nat.zero_add]
    have hc : A.cap (A.app s0 l) = A.cap s0 :=
      A.cap_app _ _ (by rw [I.used0, Nat.zero_add]; exact hl)
    have hstep := A.step_eq (A.app s0 l) (.push b) (by rw [hu, hc]; exact hl)
    rw [hu, hc, A.app_app _ _ _ (I.used0 ▸ Nat.zero_le _)] at hstep
    by_cases hfit : l.length + 1 ≤ A.cap s0
    · exact .inl ⟨_, hstep.trans (if_pos hfit), by rw [I.log_app, I.log_app]; rfl, l ++ [b],
        List.length_append ▸ hfit,
        by rw [← hK, List.length_append, Nat.add_assoc, Nat.add_comm n 1]; rfl, rfl⟩
    · have hlt := Nat.lt_of_not_le hfit
      exact .inr ⟨_, hstep.trans (if_neg hfit),
        hK ▸ Nat.lt_of_lt_of_le hlt (Nat.add_le_add_left (Nat.le_add_left 1 n) _),
        l, Nat.le_antisymm hl (Nat.le_of_lt_succ hlt), rfl⟩
  setAt_valid n s i b s' := by
    rintro ⟨l, hl, hK, rfl⟩ hi h
    rw [I.log_app] at hi
    rw [I.setAt_app l i b hl hi] at h
    cases h
    exact ⟨_, by rw [List.length_set]; exact hl, by rw [List.length_set]; exact hK, rfl⟩

end

theorem Slice.indexed (buf : List Byte) : Slice.atomic.Indexed LawfulIdx.slice ⟨buf, 0⟩ where
  used0 := rfl
  log_app l := by
    show (writeAt buf 0 l).take (0 + l.length) = l
    rw [writeAt_zero, Nat.zero_add, List.take_left' rfl]
  setAt_app l i b hl hi := by
    show (if i < (writeAt buf 0 l).length then some _ else none) = some _
    rw [if_pos (by rw [writeAt_length (Nat.zero_add _ ▸ hl)]; exact Nat.lt_of_lt_of_le hi hl)]
    simp only [Slice.atomic, writeAt_zero, List.set_append_left _ _ hi, List.length_set]

theorem HVec.indexed (cap : Nat) : HVec.atomic.Indexed LawfulIdx.hvec ⟨cap, []⟩ where
  used0 := rfl
  log_app l := List.nil_append l
  setAt_app l i b _ hi := by
    show (if i < ([] ++ l).length then some _ else none) = some _
    rw [if_pos (by simpa using hi)]
    simp only [HVec.atomic, List.nil_append]

/-- an inner flavour observed through a `log` of its state, under a state invariant `inv`;
`CrcSer` uses only these two methods of its inner flavour. -/
structure Logged {σ : Type} (F : Flavor σ (List Byte)) (inv : σ → Prop)
    (log : σ → List Byte) : Prop where
  push_ok : ∀ s b s', inv s → F.tryPush s b = (s', none) → inv s' ∧ log s' = log s ++ [b]
  fin_ok  : ∀ s s' out, inv s → F.finalize s = (s', .ok out) → out = log s

theorem Logged.extend_ok {σ : Type} {F : Flavor σ (List Byte)} {inv : σ → Prop}
    {log : σ → List Byte} (hL : Logged F inv log) {s s' : σ} {bs : List Byte} (hi : inv s)
    (h : defaultExtend F.tryPush s bs = (s', none)) : inv s' ∧ log s' = log s ++ bs := by
  induction bs generalizing s with
  | nil => cases h; exact ⟨hi, (List.append_nil _).symm⟩
  | cons b bs ih =>
    simp only [defaultExtend] at h
    split at h
    · next s1 hp =>
      obtain ⟨hi1, hl1⟩ := hL.push_ok _ _ _ hi hp
      obtain ⟨hi2, hl2⟩ := ih hi1 h
      exact ⟨hi2, by rw [hl2, hl1, List.append_assoc]; rfl⟩
    · cases h

theorem LawfulIdx.Total.logged {σ : Type} {F : Flavor σ (List Byte)} {L : LawfulIdx F}
    (T : L.Total) : Logged F T.valid L.log where
  push_ok s b s' hv h := by
    rcases T.push_total s b hv with ⟨s1, h1, hl, hv1⟩ | ⟨s1, h1⟩
    · cases h1.symm.trans h; exact ⟨hv1, hl⟩
    · cases h1.symm.trans h
  fin_ok s s' out _ h := by
    have := L.finalize_ok s
    rw [h] at this
    cases this; rfl

theorem loggedAllocVec : Logged AllocVec (fun _ => True) (fun s => s) :=
  LawfulIdx.allocVecTotal.logged

theorem loggedHVec : Logged HVec (fun _ => True) (fun s => s.vec) := LawfulIdx.hvecTotal.logged

theorem loggedSlice : Logged Slice (fun s => s.cursor ≤ s.mem.length)
    (fun s => s.mem.take s.cursor) := LawfulIdx.sliceTotal.logged

end Postcard
