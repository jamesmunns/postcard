import Postcard.Model.Crc
import Postcard.Lemmas.Bytes
import Postcard.Lemmas.Flavor
/-
  The ser-side `CrcSer` hands its inner flavour the bytes unchanged and digests them on the side
  (`crcSer_defaultExtend`); `takeFromBytesCrc_eval`/`_ok` say what the checked decoder returns and
  what it accepts.  The bitwise register is GF(2)-linear (`feedBits_xor`), and at most `w` bits
  with a set bit among them cannot bring it back to zero (`feedBits_eq_zero_short`): together,
  burst detection.
-/
namespace Postcard

theorem ofLeBytes_leBytes_bv {w : Nat} (nbytes : Nat) (x : BitVec w) (hfit : w ≤ nbytes * 8) :
    ofLeBytes (leBytes nbytes x.toNat) = x.toNat := by
  apply ofLeBytes_leBytes
  rw [show 256 = 2 ^ 8 from rfl, ← Nat.pow_mul, Nat.mul_comm]
  exact Nat.lt_of_lt_of_le x.isLt (Nat.pow_le_pow_right (by decide) hfit)

/-- `chunkBytes` as `crc_frame` spells it (`chunkBytes_eq_chunkBytesF`). -/
def chunkBytesF (cs : List Chunk) : List Byte := (cs.map Chunk.bytes).flatten

theorem chunkBytes_eq_chunkBytesF (cs : List Chunk) : chunkBytes cs = chunkBytesF cs := by
  rw [chunkBytes, chunkBytesF, List.flatMap_def]

theorem crcState_append {w : Nat} (alg : CrcAlg w) (s : BitVec w) (a b : List Byte) :
    crcState alg s (a ++ b) = crcState alg (crcState alg s a) b :=
  List.foldl_append

theorem crcState_cons {w : Nat} (alg : CrcAlg w) (s : BitVec w) (a : Byte) (b : List Byte) :
    crcState alg s (a :: b) = crcState alg (stepByte alg s a) b := rfl

section crc
variable {σ ω : Type} {w : Nat}

theorem crcSer_tryPush (alg : CrcAlg w) (n : Nat) (G : Flavor σ ω) (g : σ) (d : BitVec w)
    (b : Byte) :
    (CrcSer alg n G).tryPush (g, d) b
      = (((G.tryPush g b).1, stepByte alg d b), (G.tryPush g b).2) := rfl

end crc

/-- `CrcModifier::try_extend` (= the default) over any `G`: the inner flavour is
pushed the same bytes in the same order and stops at the same place with the
same error; the digest has absorbed a prefix `p` of `bs`, all of `bs` on success. -/
theorem crcSer_defaultExtend {σ ω : Type} {w : Nat} (alg : CrcAlg w) (n : Nat) (G : Flavor σ ω)
    (bs : List Byte) : ∀ (g : σ) (d : BitVec w),
    ∃ p, p <+: bs ∧ ((defaultExtend G.tryPush g bs).2 = none → p = bs) ∧
      defaultExtend (CrcSer alg n G).tryPush (g, d) bs =
        (((defaultExtend G.tryPush g bs).1, crcState alg d p),
          (defaultExtend G.tryPush g bs).2) := by
  induction bs with
  | nil => exact fun g d => ⟨[], List.prefix_refl _, fun _ => rfl, rfl⟩
  | cons b bs ih =>
    intro g d
    simp only [defaultExtend, crcSer_tryPush]
    rcases hq : G.tryPush g b with ⟨g1, _ | e⟩
    · obtain ⟨p, hp, hok, he⟩ := ih g1 (stepByte alg d b)
      exact ⟨b :: p, (List.prefix_cons_inj b).2 hp, fun h => congrArg _ (hok h), he⟩
    · exact ⟨[b], ⟨bs, rfl⟩, (fun h => by cases h), rfl⟩

theorem crcSer_finalize_def {σ ω : Type} {w : Nat} (alg : CrcAlg w) (n : Nat) (F : Flavor σ ω)
    (s : σ) (d : BitVec w) :
    (CrcSer alg n F).finalize (s, d) =
      match defaultExtend F.tryPush s (leBytes n (crcFinal alg d).toNat) with
      | (s', some e) => ((s', d), .error e)
      | (s', none) => (((F.finalize s').1, d), (F.finalize s').2) := rfl

/-- `consumed` of `takeFromBytesCrc` when the decoder returned the suffix `s` of its input. -/
theorem take_length_sub_append (p s : List Byte) :
    (p ++ s).take ((p ++ s).length - s.length) = p :=
  List.take_left' (by rw [List.length_append, Nat.add_sub_cancel])

theorem takeFromBytesCrc_eval {α : Type} {w : Nat} (alg : CrcAlg w)
    {decF : List Byte → R (α × List Byte)} {p c r : List Byte} {v : α}
    (hd : decF (p ++ c ++ r) = .ok (v, c ++ r)) :
    takeFromBytesCrc alg c.length decF (p ++ c ++ r)
      = if ofLeBytes c = (crc alg p).toNat then .ok (v, r) else .error .badCrc := by
  rw [List.append_assoc] at hd ⊢
  simp only [takeFromBytesCrc, hd, take_length_sub_append, takeN_append]

theorem takeFromBytesCrc_ok_crc {α : Type} {w : Nat} {alg : CrcAlg w}
    {decF : List Byte → R (α × List Byte)} {p c r : List Byte} {v : α} {x : α × List Byte}
    (hd : decF (p ++ c ++ r) = .ok (v, c ++ r))
    (hok : takeFromBytesCrc alg c.length decF (p ++ c ++ r) = .ok x) :
    ofLeBytes c = (crc alg p).toNat := by
  rw [takeFromBytesCrc_eval alg hd] at hok
  exact Decidable.by_contra fun hh => by rw [if_neg hh] at hok; cases hok

theorem takeFromBytesCrc_ok {α : Type} {w : Nat} {alg : CrcAlg w} {nbytes : Nat}
    {decF : List Byte → R (α × List Byte)} {bs r : List Byte} {v : α}
    (h : takeFromBytesCrc alg nbytes decF bs = .ok (v, r)) :
    ∃ c, decF bs = .ok (v, c ++ r) ∧ c.length = nbytes ∧
      ofLeBytes c = (crc alg (bs.take (bs.length - (c ++ r).length))).toNat := by
  unfold takeFromBytesCrc at h
  split at h
  · cases h
  · next hd =>
    simp only at h
    split at h
    · cases h
    · next c _ ht =>
      split at h
      · next hcrc =>
        cases h
        obtain ⟨rfl, hc⟩ := takeN_ok_iff.1 ht
        exact ⟨c, hd, hc, hcrc⟩
      · cases h

/-- The model writes the `else` branch as the numeral `0`; lemmas stated with `0#w` are not
found by `rw` until the definitions are restated with it (`Z_def`, `stepBit_def`). -/
theorem Z_def {w : Nat} (p s : BitVec w) :
    Z p s = (s <<< 1) ^^^ (if s.msb then p else 0#w) := rfl

theorem stepBit_def {w : Nat} (alg : CrcAlg w) (s : BitVec w) (bit : Bool) :
    stepBit alg s bit = (s <<< 1) ^^^ (if (s.msb ^^ bit) then alg.poly else 0#w) := rfl

theorem xor_xor_xor_comm {w : Nat} (a p b q : BitVec w) :
    (a ^^^ p) ^^^ (b ^^^ q) = (a ^^^ b) ^^^ (p ^^^ q) := by
  ac_rfl

theorem xor_eq_zero_iff {w : Nat} (a b : BitVec w) : a ^^^ b = 0#w ↔ a = b :=
  BitVec.xor_eq_zero_iff

theorem ite_xor_ite {w : Nat} (x y : Bool) (p : BitVec w) :
    (if x then p else 0#w) ^^^ (if y then p else 0#w) = if (x ^^ y) then p else 0#w := by
  cases x
  · cases y
    · exact BitVec.xor_zero
    · exact BitVec.zero_xor
  · cases y
    · exact BitVec.xor_zero
    · exact BitVec.xor_self

theorem stepBit_eq {w : Nat} (alg : CrcAlg w) (s : BitVec w) (b : Bool) :
    stepBit alg s b = Z alg.poly s ^^^ (if b then alg.poly else 0#w) := by
  rw [Z_def, stepBit_def, BitVec.xor_assoc, ite_xor_ite]

theorem Z_zero {w : Nat} (p : BitVec w) : Z p 0#w = 0#w := by
  simp [Z]

theorem Z_xor {w : Nat} (p a b : BitVec w) : Z p (a ^^^ b) = Z p a ^^^ Z p b := by
  rw [Z_def, Z_def, Z_def, BitVec.shiftLeft_xor_distrib, BitVec.msb_xor, xor_xor_xor_comm,
    ite_xor_ite]

theorem getLsbD_zero_shift_xor_ite {w : Nat} (v q : BitVec w) (c : Bool) :
    ((v <<< 1) ^^^ (if c then q else 0#w)).getLsbD 0 = (c && q.getLsbD 0) := by
  rw [BitVec.getLsbD_xor, BitVec.getLsbD_shiftLeft, decide_eq_true Nat.zero_lt_one,
    Bool.not_true, Bool.and_false, Bool.false_and, Bool.false_xor]
  cases c
  · exact BitVec.getLsbD_zero
  · rfl

theorem Z_eq_zero {w : Nat} {p a : BitVec w} (hodd : p.getLsbD 0 = true) (h : Z p a = 0#w) :
    a = 0#w := by
  -- bit 0 of `Z p a` is the top bit of `a`: nothing was reduced, and `Z p a` is `a` shifted
  have h0 : a.msb = false := by
    have hb := congrArg (BitVec.getLsbD · 0) h
    rwa [Z_def, getLsbD_zero_shift_xor_ite, hodd, Bool.and_true, BitVec.getLsbD_zero] at hb
  rw [Z_def, h0, if_neg Bool.false_ne_true, BitVec.xor_zero] at h
  apply BitVec.eq_of_getMsbD_eq
  intro i _
  rw [BitVec.getMsbD_zero]
  cases i with
  | zero => rw [← BitVec.msb_eq_getMsbD_zero, h0]
  | succ j => rw [← BitVec.getMsbD_shiftLeft, h, BitVec.getMsbD_zero]

theorem Z_inj {w : Nat} {p a b : BitVec w} (hodd : p.getLsbD 0 = true) (h : Z p a = Z p b) :
    a = b := by
  apply BitVec.xor_eq_zero_iff.mp
  apply Z_eq_zero hodd
  rw [Z_xor, h, BitVec.xor_self]

theorem feedBits_nil {w : Nat} (alg : CrcAlg w) (s : BitVec w) : feedBits alg s [] = s := rfl

theorem feedBits_cons {w : Nat} (alg : CrcAlg w) (s : BitVec w) (b : Bool) (bs : List Bool) :
    feedBits alg s (b :: bs) = feedBits alg (stepBit alg s b) bs := rfl

theorem feedBits_append {w : Nat} (alg : CrcAlg w) (s : BitVec w) (x y : List Bool) :
    feedBits alg s (x ++ y) = feedBits alg (feedBits alg s x) y :=
  List.foldl_append

theorem stepBit_xor {w : Nat} (alg : CrcAlg w) (s t : BitVec w) (a b : Bool) :
    stepBit alg s a ^^^ stepBit alg t b = stepBit alg (s ^^^ t) (a ^^ b) := by
  rw [stepBit_eq, stepBit_eq, stepBit_eq, Z_xor, xor_xor_xor_comm, ite_xor_ite]

def bitsXor (x y : List Bool) : List Bool := List.zipWith (fun p q => p ^^ q) x y

theorem bitsXor_cons (a b : Bool) (x y : List Bool) :
    bitsXor (a :: x) (b :: y) = (a ^^ b) :: bitsXor x y := rfl

theorem bitsXor_length {a b : List Bool} (h : a.length = b.length) :
    (bitsXor a b).length = a.length := by
  rw [bitsXor, List.length_zipWith, ← h, Nat.min_self]

theorem bitsXor_append {a a' b b' : List Bool} (h : a.length = a'.length) :
    bitsXor (a ++ b) (a' ++ b') = bitsXor a a' ++ bitsXor b b' :=
  List.zipWith_append h

theorem bitsXor_self (a : List Bool) : bitsXor a a = List.replicate a.length false := by
  simp only [bitsXor, List.zipWith_self, Bool.xor_self, List.map_const']

theorem bitsXor_all_false {a b : List Bool} (h : a.length = b.length)
    (hf : ¬ true ∈ bitsXor a b) : a = b := by
  apply List.ext_getElem h
  intro i h1 h2
  have hi : i < (bitsXor a b).length := by rwa [bitsXor_length h]
  have hx : (bitsXor a b)[i] ≠ true := fun ht => hf (ht ▸ List.getElem_mem hi)
  simpa [bitsXor] using hx

theorem feedBits_xor {w : Nat} (alg : CrcAlg w) : ∀ (x y : List Bool) (s t : BitVec w),
    x.length = y.length →
    feedBits alg s x ^^^ feedBits alg t y = feedBits alg (s ^^^ t) (bitsXor x y)
  | [], [] => fun _ _ _ => rfl
  | a :: x, b :: y => fun s t h => by
    rw [bitsXor_cons, feedBits_cons, feedBits_cons, feedBits_cons,
      feedBits_xor alg x y _ _ (Nat.succ.inj h), stepBit_xor]
  | [], _ :: _ | _ :: _, [] => fun _ _ h => nomatch h

/-- zero bits multiply the register by a power of `x`, which is invertible modulo a generator with
constant term 1. -/
theorem feedBits_zeros_eq_zero {w : Nat} (alg : CrcAlg w) (hodd : alg.poly.getLsbD 0 = true)
    (n : Nat) {s : BitVec w} : feedBits alg s (List.replicate n false) = 0#w ↔ s = 0#w := by
  induction n generalizing s with
  | zero => exact Iff.rfl
  | succ n ih =>
    rw [List.replicate_succ, feedBits_cons, ih, stepBit_eq, if_neg Bool.false_ne_true,
      BitVec.xor_zero]
    exact ⟨Z_eq_zero hodd, fun h => h.symm ▸ Z_zero _⟩

/-- Long division: over at most `w` bits the register comes back to zero only if no reduction
happens, i.e. every message bit cancels the bit that is shifted out.  (A reduction sets bit 0, the
generator's constant term, and the fewer than `w` shifts that remain cannot push it out.)  So the
bits are the leading bits of the register, and the rest of the register is clear. -/
theorem feedBits_eq_zero_short {w : Nat} (alg : CrcAlg w) (hodd : alg.poly.getLsbD 0 = true) :
    ∀ (bits : List Bool) (s : BitVec w), bits.length ≤ w → feedBits alg s bits = 0#w →
      ∀ i, s.getMsbD i = bits[i]?.getD false
  | [] => fun s _ h i => by rw [show s = 0#w from h]; exact BitVec.getMsbD_zero
  | b :: bits => fun s hlen h i => by
    have hlen : bits.length + 1 ≤ w := hlen
    have ih := feedBits_eq_zero_short alg hodd bits (stepBit alg s b) (Nat.le_of_succ_le hlen) h
    -- bit 0 after the step is beyond the bits still to come, so it is clear: no reduction
    have h0 : (s.msb ^^ b) = false := by
      have := ih (w - 1)
      rwa [List.getElem?_eq_none (Nat.le_sub_one_of_lt hlen), BitVec.getMsbD_eq_getLsbD,
        decide_eq_true (show w - 1 < w by omega), Nat.sub_self, stepBit_def,
        getLsbD_zero_shift_xor_ite, hodd, Bool.and_true, Bool.true_and] at this
    rw [stepBit_def, h0, if_neg Bool.false_ne_true, BitVec.xor_zero] at ih
    cases i with
    | zero =>
      rw [← BitVec.msb_eq_getMsbD_zero]
      exact bne_eq_false_iff_eq.mp h0
    | succ j => rw [← BitVec.getMsbD_shiftLeft]; exact ih j

theorem crcFinal_inj {w : Nat} (alg : CrcAlg w) {a b : BitVec w}
    (h : crcFinal alg a = crcFinal alg b) : a = b := by
  have h2 := (BitVec.xor_left_inj _).1 h
  cases hr : alg.refout
  · rwa [hr, if_neg Bool.false_ne_true, if_neg Bool.false_ne_true] at h2
  · rw [hr, if_pos rfl, if_pos rfl] at h2
    rw [← BitVec.reverse_reverse_eq (x := a), h2, BitVec.reverse_reverse_eq]

theorem msgBits_cons {w : Nat} (alg : CrcAlg w) (b : Byte) (m : List Byte) :
    msgBits alg (b :: m) = byteBits alg.refin b ++ msgBits alg m := rfl

theorem msgBits_append {w : Nat} (alg : CrcAlg w) (a b : List Byte) :
    msgBits alg (a ++ b) = msgBits alg a ++ msgBits alg b :=
  List.flatMap_append

theorem crcState_eq_feedBits {w : Nat} (alg : CrcAlg w) (s : BitVec w) (m : List Byte) :
    crcState alg s m = feedBits alg s (msgBits alg m) := by
  induction m generalizing s with
  | nil => rfl
  | cons b m ih => rw [crcState_cons, ih, msgBits_cons, feedBits_append, stepByte]

theorem byteBits_eq_map (r : Bool) (b : Byte) :
    byteBits r b = (List.range 8).map fun i => b.toNat.testBit (if r then i else 7 - i) := by
  cases r <;> rfl

theorem byteBits_length (r : Bool) (b : Byte) : (byteBits r b).length = 8 := by
  rw [byteBits_eq_map, List.length_map, List.length_range]

theorem msgBits_length {w : Nat} (alg : CrcAlg w) (m : List Byte) :
    (msgBits alg m).length = 8 * m.length := by
  induction m with
  | nil => rfl
  | cons b m ih =>
    rw [msgBits_cons, List.length_append, ih, byteBits_length, List.length_cons, Nat.mul_succ,
      Nat.add_comm]

/-- `m` and `m'` (as bit strings in the algorithm's own bit order: MSB-first per
byte when `refin = false`, LSB-first when `refin = true`) differ by a burst:
`zeros ++ burst ++ zeros` with `burst` of at most `w` bits, not all zero. -/
def BurstDiff {w : Nat} (alg : CrcAlg w) (m m' : List Byte) : Prop :=
  ∃ (a c : Nat) (burst : List Bool),
    bitsXor (msgBits alg m) (msgBits alg m')
      = List.replicate a false ++ burst ++ List.replicate c false ∧
    burst.length ≤ w ∧ true ∈ burst

theorem byteBits_inj {r : Bool} {a b : Byte} (h : byteBits r a = byteBits r b) : a = b := by
  rw [byteBits_eq_map, byteBits_eq_map, List.map_inj_left] at h
  apply UInt8.eq_of_toBitVec_eq
  apply BitVec.eq_of_getLsbD_eq
  intro i hi
  cases r
  · -- bit `i` sits at position `7 - i`
    have h7 := h (7 - i) (List.mem_range.mpr (Nat.lt_succ_of_le (Nat.sub_le 7 i)))
    rwa [if_neg Bool.false_ne_true, Nat.sub_sub_self (Nat.le_of_lt_succ hi)] at h7
  · exact h i (List.mem_range.mpr hi)

theorem msgBits_inj {w : Nat} (alg : CrcAlg w) : ∀ {x y : List Byte}, x.length = y.length →
    msgBits alg x = msgBits alg y → x = y
  | [], [] => fun _ _ => rfl
  | a :: x, b :: y => fun hlen h => by
    have h' := List.append_inj (t₁ := msgBits alg x) (t₂ := msgBits alg y) h
      (by rw [byteBits_length, byteBits_length])
    rw [byteBits_inj h'.1, msgBits_inj alg (Nat.succ.inj hlen) h'.2]
  | [], _ :: _ | _ :: _, [] => fun h => nomatch h

theorem bitsXor_msgBits_window {w : Nat} (alg : CrcAlg w) (pre x y post : List Byte)
    (hxy : x.length = y.length) :
    bitsXor (msgBits alg (pre ++ x ++ post)) (msgBits alg (pre ++ y ++ post))
      = List.replicate (8 * pre.length) false ++ bitsXor (msgBits alg x) (msgBits alg y)
          ++ List.replicate (8 * post.length) false := by
  have hl : (msgBits alg pre ++ msgBits alg x).length
      = (msgBits alg pre ++ msgBits alg y).length := by
    simp only [List.length_append, msgBits_length, hxy]
  simp only [msgBits_append, bitsXor_append hl, bitsXor_append rfl, bitsXor_self, msgBits_length]

theorem window_burstDiff {w : Nat} (alg : CrcAlg w) (pre x y post : List Byte)
    (hxy : x.length = y.length) (hne : x ≠ y) (hfit : 8 * x.length ≤ w) :
    BurstDiff alg (pre ++ x ++ post) (pre ++ y ++ post) := by
  have hl : (msgBits alg x).length = (msgBits alg y).length := by
    rw [msgBits_length, msgBits_length, hxy]
  refine ⟨8 * pre.length, 8 * post.length, bitsXor (msgBits alg x) (msgBits alg y),
    bitsXor_msgBits_window alg pre x y post hxy, ?_, ?_⟩
  · rw [bitsXor_length hl, msgBits_length]; exact hfit
  · exact Decidable.by_contra fun hf => hne (msgBits_inj alg hxy (bitsXor_all_false hl hf))

def flipBit (b : Byte) (k : Nat) : Byte := b ^^^ (1 <<< UInt8.ofNat k)

theorem byteBits_xor (r : Bool) (a b : Byte) :
    bitsXor (byteBits r a) (byteBits r b) = byteBits r (a ^^^ b) := by
  simp only [byteBits_eq_map, bitsXor, List.zipWith_map, List.zipWith_self, UInt8.toNat_xor,
    Nat.testBit_xor]

theorem byteBits_onehot_fin : ∀ (r : Bool) (k : Fin 8),
    byteBits r (1 <<< UInt8.ofNat k.val)
      = List.replicate (if r then k.val else 7 - k.val) false ++ [true]
          ++ List.replicate (7 - (if r then k.val else 7 - k.val)) false := by
  decide +kernel

theorem byteBits_flip (r : Bool) (b : Byte) (k : Nat) (hk : k < 8) :
    ∃ i, bitsXor (byteBits r b) (byteBits r (flipBit b k))
      = List.replicate i false ++ [true] ++ List.replicate (7 - i) false := by
  rw [byteBits_xor, flipBit, ← UInt8.xor_assoc, UInt8.xor_self, UInt8.zero_xor]
  exact ⟨_, byteBits_onehot_fin r ⟨k, hk⟩⟩

theorem msgBits_singleton {w : Nat} (alg : CrcAlg w) (b : Byte) :
    msgBits alg [b] = byteBits alg.refin b := List.append_nil _

theorem bitflip_burstDiff {w : Nat} (alg : CrcAlg w) (hw : 0 < w) (pre post : List Byte)
    (b : Byte) (k : Nat) (hk : k < 8) :
    BurstDiff alg (pre ++ [b] ++ post) (pre ++ [flipBit b k] ++ post) := by
  obtain ⟨i, hi⟩ := byteBits_flip alg.refin b k hk
  refine ⟨8 * pre.length + i, (7 - i) + 8 * post.length, [true], ?_, hw,
    List.mem_singleton_self _⟩
  rw [bitsXor_msgBits_window alg pre [b] [flipBit b k] post rfl, msgBits_singleton,
    msgBits_singleton, hi, ← List.replicate_append_replicate, ← List.replicate_append_replicate]
  simp only [List.append_assoc]

end Postcard
