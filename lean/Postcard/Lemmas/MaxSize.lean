import Postcard.Model.MaxSize
import Postcard.Model.Ser
import Postcard.Lemmas.Bytes
import Postcard.Lemmas.Varint
import Postcard.Lemmas.Codec
import Postcard.Lemmas.RoundTrip
/-
  For property C12 (`POSTCARD_MAX_SIZE` is an upper bound, attained for the "tight" types):
  the length of a varint against the two size helpers of `max_size.rs`, the arithmetic of the
  constant, the values of each `MaxSize` type (`MTy.inhabits` read from the type's side), the
  length of the encoding of each form of value, and the witness that attains the constant.
-/
namespace Postcard

theorem log2_div_two_pow (k : Nat) {n : Nat} (h : 2 ^ k ≤ n) : (n / 2 ^ k).log2 + k = n.log2 := by
  induction k generalizing n with
  | zero => rw [Nat.pow_zero, Nat.div_one, Nat.add_zero]
  | succ k ih =>
    have h2 : 2 ≤ n := Nat.le_trans (Nat.le_self_pow (Nat.succ_ne_zero k) 2) h
    have hk : 2 ^ k ≤ n / 2 := by
      rw [Nat.le_div_iff_mul_le (by decide), ← Nat.pow_succ]; exact h
    rw [Nat.log2_def n, if_pos h2, ← ih hk, Nat.div_div_eq_div_mul, ← Nat.pow_succ',
      Nat.add_assoc]

theorem log2_mono {a b : Nat} (h : a ≤ b) : a.log2 ≤ b.log2 := by
  by_cases ha : a = 0
  · rw [ha, Nat.log2_zero]; exact Nat.zero_le _
  · have hb : b ≠ 0 := by omega
    exact (Nat.le_log2 hb).2 (Nat.le_trans (Nat.log2_self_le ha) h)

theorem spec_varint_length (n : Nat) : (Spec.varint n).length = n.log2 / 7 + 1 := by
  induction n using Spec.varint.induct with
  | case1 n h =>
    have : n.log2 < 7 := by
      by_cases h0 : n = 0
      · rw [h0, Nat.log2_zero]; decide
      · exact (Nat.log2_lt h0).2 h
    rw [Spec.varint, if_pos h, List.length_singleton, Nat.div_eq_of_lt this]
  | case2 n h ih =>
    rw [Spec.varint, if_neg h, List.length_cons, ih]
    have : (n / 128).log2 + 7 = n.log2 := log2_div_two_pow 7 (by omega)
    omega

theorem varintSize_eq (n : Nat) : varintSize n = n.log2 / 7 + 1 := by
  unfold varintSize bitLen
  by_cases h : n = 0
  · rw [h, if_pos rfl, Nat.log2_zero]
  · simp only [if_neg h]; omega

theorem varintSizeDiscriminant_eq {n : Nat} (h : n ≠ 0) :
    varintSizeDiscriminant n = varintSize n :=
  (if_neg h).symm

theorem encVarint_length {bits n : Nat} (hb : WidthOk bits) (h : n < 2 ^ bits) :
    (encVarint bits n).length = varintSize n := by
  rw [encVarint_eq_spec hb h, spec_varint_length, varintSize_eq]

theorem varintSize_mono {a b : Nat} (h : a ≤ b) : varintSize a ≤ varintSize b := by
  rw [varintSize_eq, varintSize_eq]
  exact Nat.succ_le_succ (Nat.div_le_div_right (log2_mono h))

theorem varintSize_le_discriminant {k n : Nat} (h : k < n) :
    varintSize k ≤ varintSizeDiscriminant n :=
  varintSizeDiscriminant_eq (Nat.ne_of_gt (Nat.zero_lt_of_lt h)) ▸
    varintSize_mono (Nat.le_of_lt h)

/-- `max_size.rs::varint_size(N)` bounds the `usize` varint of every `n ≤ N`
(the length prefix of a `heapless::Vec<T,N>` / `heapless::String<N>`). -/
theorem varint_len_le_size {n N : Nat} (hn : n ≤ N) (hN : N < 2 ^ 64) :
    (encVarint 64 n).length ≤ varintSize N :=
  encVarint_length widthOk64 (Nat.lt_of_le_of_lt hn hN) ▸ varintSize_mono hn

theorem varint_len_eq_size {N : Nat} (hN : N < 2 ^ 64) :
    (encVarint 64 N).length = varintSize N :=
  encVarint_length widthOk64 hN

/-- the derive's `varint_size_discriminant(variant_count)`, computed from the variant
COUNT, bounds the `u32` varint of every variant INDEX `idx < variant_count`. -/
theorem varint_len_le_discriminant {idx count : Nat} (hi : idx < count) (hc : count < 2 ^ 32) :
    (encVarint 32 idx).length ≤ varintSizeDiscriminant count :=
  encVarint_length widthOk32 (Nat.lt_trans hi hc) ▸ varintSize_le_discriminant hi

theorem encVarint_length_le (bits n : Nat) : (encVarint bits n).length ≤ varintMax bits :=
  encVarintLoop_length_le _ _

theorem encVarint_length_pos {bits : Nat} (hb : 1 ≤ varintMax bits) (n : Nat) :
    1 ≤ (encVarint bits n).length := by
  unfold encVarint
  obtain ⟨k, hk⟩ := Nat.exists_eq_add_of_le' hb
  rw [hk, encVarintLoop]
  split <;> exact Nat.le_add_left 1 _

theorem encVarint_small {bits n : Nat} (hb : 1 ≤ varintMax bits) (h : n < 128) :
    (encVarint bits n).length = 1 := by
  unfold encVarint
  obtain ⟨k, hk⟩ := Nat.exists_eq_add_of_le' hb
  rw [hk, encVarintLoop, if_pos h]; rfl

theorem sumFrom_eq (acc : Nat) (ts : List MTy) : sumFrom acc ts = acc + sumFrom 0 ts := by
  induction ts generalizing acc with
  | nil => rfl
  | cons t ts ih =>
    show sumFrom (acc + maxSize t) ts = acc + sumFrom (0 + maxSize t) ts
    rw [ih (acc + maxSize t), ih (0 + maxSize t)]
    omega

theorem sumFrom_cons (t : MTy) (ts : List MTy) :
    sumFrom 0 (t :: ts) = maxSize t + sumFrom 0 ts := by
  show sumFrom (0 + maxSize t) ts = _
  rw [sumFrom_eq, Nat.zero_add]

theorem tupleSum_eq (ts : List MTy) : tupleSum ts = sumFrom 0 ts := by
  cases ts with
  | nil => rfl
  | cons t ts =>
    show sumFrom (maxSize t) ts = _
    rw [sumFrom_cons, sumFrom_eq]

theorem rmax_eq (a b : Nat) : rmax a b = max a b := by unfold rmax; split <;> omega

theorem maxVariants_ge_acc (acc : Nat) (fs : List DFields) : acc ≤ maxVariants acc fs := by
  induction fs generalizing acc with
  | nil => exact Nat.le_refl acc
  | cons f fs ih => exact Nat.le_trans (rmax_eq .. ▸ Nat.le_max_left ..) (ih _)

theorem maxVariants_ge_head (acc : Nat) (f : DFields) (fs : List DFields) :
    DFields.sum f ≤ maxVariants acc (f :: fs) :=
  Nat.le_trans (rmax_eq .. ▸ Nat.le_max_right ..) (maxVariants_ge_acc _ fs)

theorem intInhabits_inv {s : Bool} {w : IntW} {nz : Bool} {v : Val}
    (h : intInhabits s w nz v = true) :
    (s = false ∧ ∃ n, v = .u w n ∧ n < 2 ^ w.bits) ∨
    (s = true ∧ ∃ x, v = .i w x ∧ w.inRangeI x = true) := by
  cases v
  case u w' n =>
    simp only [intInhabits, Bool.and_eq_true, Bool.not_eq_true', decide_eq_true_eq] at h
    obtain ⟨⟨⟨hs, rfl⟩, hn⟩, _⟩ := h
    exact .inl ⟨hs, n, rfl, hn⟩
  case i w' x =>
    simp only [intInhabits, Bool.and_eq_true, decide_eq_true_eq] at h
    obtain ⟨⟨⟨hs, rfl⟩, hx⟩, _⟩ := h
    exact .inr ⟨hs, x, rfl, hx⟩
  all_goals contradiction

theorem all_inhabits {t : MTy} {vs : List Val} (h : vs.all (fun v => t.inhabits v) = true) :
    ∀ v ∈ vs, t.inhabits v = true :=
  List.all_eq_true.1 h

/-- the form of the values of each type whose clause of `MTy.inhabits` fixes the value's
constructor (the integer kinds go through `intInhabits`, `&T` through `T`, derived types
through `DFields.inhabitsStruct` and `inhabitsEnum`). -/
def MTy.Shape : MTy → Val → Prop
  | .bool, v => ∃ b, v = .bool b
  | .f32, v => ∃ b, v = .f32 b ∧ b < 2 ^ 32
  | .f64, v => ∃ b, v = .f64 b ∧ b < 2 ^ 64
  | .char, v => ∃ c, v = .char c ∧ isScalar c = true
  | .unit, v => v = .unit
  | .phantom, v => v = .unitStruct
  | .option t, v => v = .none ∨ ∃ w, v = .some w ∧ t.inhabits w = true
  | .result t e, v => (∃ w, v = .newtypeVariant 0 w ∧ t.inhabits w = true) ∨
      (∃ w, v = .newtypeVariant 1 w ∧ e.inhabits w = true)
  | .array t n, v => ∃ vs, v = .tuple vs ∧ (∀ x ∈ vs, t.inhabits x = true) ∧ vs.length = n
  | .tuple ts, v => ∃ vs, v = .tuple vs ∧ inhabitsList ts vs = true
  | .range t, v | .rangeInclusive t, v =>
    ∃ a b, v = .struct [a, b] ∧ t.inhabits a = true ∧ t.inhabits b = true
  | .rangeFrom t, v | .rangeTo t, v => ∃ a, v = .struct [a] ∧ t.inhabits a = true
  | .hvec t n, v => ∃ vs, v = .seq vs ∧ (∀ x ∈ vs, t.inhabits x = true) ∧ vs.length ≤ n
  | .hstring n, v => ∃ s, v = .str s ∧ utf8Valid s = true ∧ s.length ≤ n
  | _, _ => True

theorem inhabits_shape {m : MTy} {v : Val} : m.inhabits v = true → m.Shape v := by
  -- by the clauses of `MTy.inhabits`, in its order: `h` is the clause's right-hand side
  fun_cases MTy.inhabits m v
  all_goals intro h
  case case1 b => exact ⟨b, rfl⟩                                   -- .bool, .bool b
  case case8 b | case9 b => exact ⟨b, rfl, of_decide_eq_true h⟩    -- .f32, .f32 b | .f64, .f64 b
  case case10 c => exact ⟨c, rfl, h⟩                               -- .char, .char c
  case case11 | case12 => exact rfl                                -- .unit | .phantom
  case case13 => exact .inl rfl                                    -- .option t, .none
  case case14 t w => exact .inr ⟨w, rfl, h⟩                        -- .option t, .some w
  case case15 t e w => exact .inl ⟨w, rfl, h⟩                      -- .result t e, Ok(w)
  case case16 t e w => exact .inr ⟨w, rfl, h⟩                      -- .result t e, Err(w)
  case case17 t n vs | case24 t n vs =>                            -- .array t n | .hvec t n
    have ⟨h1, h2⟩ := Bool.and_eq_true_iff.1 h
    exact ⟨vs, rfl, all_inhabits h1, of_decide_eq_true h2⟩
  case case18 ts vs => exact ⟨vs, rfl, h⟩                          -- .tuple ts, .tuple vs
  case case19 t a b | case20 t a b =>                              -- .range t | .rangeInclusive t
    exact ⟨a, b, rfl, Bool.and_eq_true_iff.1 h⟩
  case case21 t a | case22 t a => exact ⟨a, rfl, h⟩                -- .rangeFrom t | .rangeTo t
  case case25 n s =>                                               -- .hstring n, .str s
    have ⟨h1, h2⟩ := Bool.and_eq_true_iff.1 h
    exact ⟨s, rfl, h1, of_decide_eq_true h2⟩
  case case29 => contradiction                                     -- _, _ : `h` is `false = true`
  all_goals trivial                                                -- the rows `True`

theorem inhabits_denum {fs : List DFields} {v : Val} :
    (MTy.denum fs).inhabits v = true ↔
      ∃ idx, v.variantIdx? = some idx ∧ idx < 2 ^ 32 ∧ inhabitsEnum fs idx v = true := by
  show (match v.variantIdx? with
    | some idx => decide (idx < 2 ^ 32) && inhabitsEnum fs idx v
    | none => false) = true ↔ _
  cases v.variantIdx? <;> simp

theorem inhabitsList_nil {vs : List Val} (h : inhabitsList [] vs = true) : vs = [] := by
  cases vs
  case nil => rfl
  case cons => cases h

theorem inhabitsList_cons {t : MTy} {ts : List MTy} {vs : List Val}
    (h : inhabitsList (t :: ts) vs = true) :
    ∃ v vs', vs = v :: vs' ∧ t.inhabits v = true ∧ inhabitsList ts vs' = true := by
  cases vs
  case nil => cases h
  case cons v vs' => exact ⟨v, vs', rfl, Bool.and_eq_true_iff.1 h⟩

/-- the values of a derived struct, by the kind of its fields (`DFields.inhabitsStruct` read from
the fields' side, as `MTy.Shape` reads `MTy.inhabits`). -/
def DFields.StructShape : DFields → Val → Prop
  | .unit, v => v = .unitStruct
  | .unnamed ts, v =>
    (∃ w, v = .newtypeStruct w ∧ ts.length = 1 ∧ inhabitsList ts [w] = true) ∨
    (∃ vs, v = .tupleStruct vs ∧ ts.length ≠ 1 ∧ inhabitsList ts vs = true)
  | .named ts, v => ∃ vs, v = .struct vs ∧ inhabitsList ts vs = true

/-- the values of an enum variant with these fields, at any index (`DFields.inhabitsVariant`). -/
def DFields.VariantShape : DFields → Val → Prop
  | .unit, v => ∃ idx, v = .unitVariant idx
  | .unnamed ts, v =>
    (∃ idx w, v = .newtypeVariant idx w ∧ ts.length = 1 ∧ inhabitsList ts [w] = true) ∨
    (∃ idx vs, v = .tupleVariant idx vs ∧ ts.length ≠ 1 ∧ inhabitsList ts vs = true)
  | .named ts, v => ∃ idx vs, v = .structVariant idx vs ∧ inhabitsList ts vs = true

theorem inhabitsStruct_shape {f : DFields} {v : Val} :
    DFields.inhabitsStruct f v = true → f.StructShape v := by
  fun_cases DFields.inhabitsStruct f v
  all_goals intro h
  case case1 => exact rfl                           -- .unit, .unitStruct
  case case2 ts w =>                                -- .unnamed ts, .newtypeStruct w
    have ⟨h1, h2⟩ := Bool.and_eq_true_iff.1 h
    exact .inl ⟨w, rfl, of_decide_eq_true h1, h2⟩
  case case3 ts vs =>                               -- .unnamed ts, .tupleStruct vs
    have ⟨h1, h2⟩ := Bool.and_eq_true_iff.1 h
    exact .inr ⟨vs, rfl, of_decide_eq_true h1, h2⟩
  case case4 ts vs => exact ⟨vs, rfl, h⟩            -- .named ts, .struct vs
  case case5 => contradiction                       -- _, _

theorem inhabitsVariant_shape {f : DFields} {v : Val} :
    DFields.inhabitsVariant f v = true → f.VariantShape v := by
  fun_cases DFields.inhabitsVariant f v
  all_goals intro h
  case case1 idx => exact ⟨idx, rfl⟩                -- .unit, .unitVariant idx
  case case2 ts idx w =>                            -- .unnamed ts, .newtypeVariant idx w
    have ⟨h1, h2⟩ := Bool.and_eq_true_iff.1 h
    exact .inl ⟨idx, w, rfl, of_decide_eq_true h1, h2⟩
  case case3 ts idx vs =>                           -- .unnamed ts, .tupleVariant idx vs
    have ⟨h1, h2⟩ := Bool.and_eq_true_iff.1 h
    exact .inr ⟨idx, vs, rfl, of_decide_eq_true h1, h2⟩
  case case4 ts idx vs => exact ⟨idx, vs, rfl, h⟩   -- .named ts, .structVariant idx vs
  case case5 => contradiction                       -- _, _

theorem inhabitsEnum_getElem? (fs : List DFields) (k : Nat) (v : Val)
    (h : inhabitsEnum fs k v = true) :
    ∃ f, fs[k]? = some f ∧ DFields.inhabitsVariant f v = true := by
  induction fs generalizing k with
  | nil => cases h
  | cons f fs ih =>
    cases k with
    | zero => exact ⟨f, rfl, h⟩
    | succ k => exact ih k h

theorem encList_singleton (v : Val) : encList [v] = enc v := List.append_nil _

theorem enc_newtypeVariant_small {idx : Nat} (w : Val) (h : idx < 128) :
    (enc (.newtypeVariant idx w)).length = (enc w).length + 1 :=
  List.length_append.trans (encVarint_small (bits := 32) (by decide) h ▸ Nat.add_comm ..)

theorem encList_length_le_mul (B : Nat) (vs : List Val)
    (h : ∀ v ∈ vs, (enc v).length ≤ B) : (encList vs).length ≤ B * vs.length := by
  induction vs with
  | nil => exact Nat.zero_le _
  | cons v vs ih =>
    have ⟨h1, h2⟩ := List.forall_mem_cons.1 h
    show (enc v ++ encList vs).length ≤ B * (vs.length + 1)
    rw [List.length_append, Nat.mul_succ, Nat.add_comm]
    exact Nat.add_le_add (ih h2) h1

theorem encList_replicate_length (v : Val) (n : Nat) :
    (encList (List.replicate n v)).length = (enc v).length * n := by
  induction n with
  | zero => rfl
  | succ n ih =>
    show (enc v ++ encList (List.replicate n v)).length = _
    rw [List.length_append, ih, Nat.mul_succ, Nat.add_comm]

theorem length_append_le {a p : List Byte} {B : Nat} (h : p.length ≤ B) :
    (a ++ p).length ≤ a.length + B :=
  List.length_append ▸ Nat.add_le_add_left h _

theorem enc_pair_length (a b : Val) :
    (enc (.struct [a, b])).length = (enc a).length + (enc b).length := by
  show (enc a ++ (enc b ++ [])).length = _
  rw [List.append_nil, List.length_append]

theorem pair_le {a b : Val} {B : Nat} (ha : (enc a).length ≤ B) (hb : (enc b).length ≤ B) :
    (enc (.struct [a, b])).length ≤ B * 2 :=
  enc_pair_length a b ▸ Nat.mul_two B ▸ Nat.add_le_add ha hb

/-- `heapless::Vec` / `heapless::String` of capacity `n`: the `usize` varint of the actual
length `k ≤ n`, then a payload of at most `P` bytes. -/
theorem prefixed_le {p : List Byte} {k n P : Nat} (hk : k ≤ n) (hn : n < 2 ^ 64)
    (hp : p.length ≤ P) : (encVarint 64 k ++ p).length ≤ P + varintSize n :=
  List.length_append ▸ Nat.add_comm .. ▸ Nat.add_le_add hp (varint_len_le_size hk hn)

theorem intMaxSize_bound (w : IntW) (n : Nat) : (enc (.u w n)).length ≤ intMaxSize w := by
  cases w
  case w8 => exact Nat.le_refl 1
  all_goals exact encVarint_length_le _ _

theorem intMaxSize_bound_i (w : IntW) (x : Int) : (enc (.i w x)).length ≤ intMaxSize w := by
  cases w
  case w8 => exact Nat.le_refl 1
  all_goals exact encVarint_length_le _ _

theorem enc_int_le {s : Bool} {w : IntW} {nz : Bool} {v : Val} (h : intInhabits s w nz v = true) :
    (enc v).length ≤ intMaxSize w := by
  obtain ⟨_, n, rfl, _⟩ | ⟨_, x, rfl, _⟩ := intInhabits_inv h
  · exact intMaxSize_bound w n
  · exact intMaxSize_bound_i w x

theorem intMaxSize_w64 : intMaxSize .w64 = varintMax 64 := rfl

theorem enc_char_le (c : Nat) : (enc (.char c)).length ≤ 5 := by
  have h1 := utf8Encode_length_le c
  have h2 := encVarint_small (bits := 64) (n := (utf8Encode c).length) (by decide) (by omega)
  show (encVarint 64 (utf8Encode c).length ++ utf8Encode c).length ≤ 5
  rw [List.length_append]
  omega

/-- the extreme value of `uN` / `iN` (and of `NonZero*`: it is not 0):
`uN::MAX`, whose varint is all ones, resp. `iN::MIN`, whose zig-zag is `uN::MAX`. -/
def intWitness (signed : Bool) (w : IntW) : Val :=
  if signed then .i w (-(2 ^ (w.bits - 1) : Int)) else .u w (2 ^ w.bits - 1)

mutual
/-- a value of type `m` whose encoding has `POSTCARD_MAX_SIZE` bytes (for tight `m`). -/
def maxWitness : MTy → Val
  | .bool => .bool true
  | .int s w => intWitness s w
  | .usize => intWitness false .w64
  | .isize => intWitness true .w64
  | .nonZero s w => intWitness s w
  | .nonZeroUsize => intWitness false .w64
  | .nonZeroIsize => intWitness true .w64
  | .f32 => .f32 0
  | .f64 => .f64 0
  | .char => .char 0x10000                       -- four UTF-8 bytes + length byte
  | .unit => .unit
  | .phantom => .unitStruct
  | .option t => .some (maxWitness t)
  | .result t e =>
    if maxSize t > maxSize e then .newtypeVariant 0 (maxWitness t)
    else .newtypeVariant 1 (maxWitness e)
  | .array t n => .tuple (List.replicate n (maxWitness t))
  | .tuple ts => .tuple (maxWitnessList ts)
  | .range t => .struct [maxWitness t, maxWitness t]
  | .rangeInclusive t => .struct [maxWitness t, maxWitness t]
  | .rangeFrom t => .struct [maxWitness t]
  | .rangeTo t => .struct [maxWitness t]
  | .ref t => maxWitness t
  | .hvec t n => .seq (List.replicate n (maxWitness t))     -- full vector
  | .hstring n => .str (List.replicate n 0x41)              -- "AAA…A", full string
  | .dstruct f => DFields.structWitness f
  | .denum _ => .unit                                       -- not tight; never used
def maxWitnessList : List MTy → List Val
  | [] => []
  | t :: ts => maxWitness t :: maxWitnessList ts
def DFields.structWitness : DFields → Val
  | .unit => .unitStruct
  | .unnamed ts =>
    if ts.length = 1 then .newtypeStruct ((maxWitnessList ts).headD .unit)
    else .tupleStruct (maxWitnessList ts)
  | .named ts => .struct (maxWitnessList ts)
end

mutual
/-- the types for which the constant is attained: integers (incl.
`usize`/`isize`/`NonZero*`), floats, `bool`, `char`, `()`, `PhantomData`,
arrays, tuples, options, references/boxes, ranges, fixed-capacity
`heapless::Vec`/`String`, and derived structs — each over tight components.
(`Result<T,E>` over tight `T`, `E` is tight as well and is included.)
Derived enums are NOT: see `denum128_not_tight` in Props/C12. -/
def MTy.tight : MTy → Bool
  | .option t => t.tight
  | .result t e => t.tight && e.tight
  | .array t _ => t.tight
  | .tuple ts => tightList ts
  | .range t => t.tight
  | .rangeInclusive t => t.tight
  | .rangeFrom t => t.tight
  | .rangeTo t => t.tight
  | .ref t => t.tight
  | .hvec t _ => t.tight
  | .dstruct f => DFields.tight f
  | .denum _ => false
  | _ => true
def tightList : List MTy → Bool
  | [] => true
  | t :: ts => t.tight && tightList ts
def DFields.tight : DFields → Bool
  | .unit => true
  | .unnamed ts => tightList ts
  | .named ts => tightList ts
end

theorem intWitness_spec {s : Bool} {w : IntW} {nz : Bool} :
    intInhabits s w nz (intWitness s w) = true ∧
    (enc (intWitness s w)).length = intMaxSize w := by
  cases s <;> cases w <;> cases nz <;> decide

theorem utf8Valid_replicate_ascii (n : Nat) :
    utf8Valid (List.replicate n (0x41 : Byte)) = true := by
  induction n with
  | zero => rfl
  | succ n ih =>
    exact (utf8Valid_of_next (c := 0x41) (rest := List.replicate n 0x41) rfl).trans ih

theorem replicate_inhabits {t : MTy} {w : Val} (n : Nat) (h : t.inhabits w = true) :
    (List.replicate n w).all (fun v => t.inhabits v) = true :=
  List.all_eq_true.2 fun _ hx => List.eq_of_mem_replicate hx ▸ h

/- The witness lemmas take and return the pair "a value of the type, the length of its encoding"
as the conjunction that `max_size_tight_witness` and `encMax_attained_witness` (Props/C12Exact)
conclude, so that the arms of both apply them to the induction hypotheses as they are. -/

theorem array_witness {t : MTy} {w : Val} {B : Nat} (n : Nat)
    (h : t.inhabits w = true ∧ (enc w).length = B) :
    (MTy.array t n).inhabits (.tuple (List.replicate n w)) = true ∧
      (enc (.tuple (List.replicate n w))).length = B * n :=
  ⟨Bool.and_eq_true_iff.2 ⟨replicate_inhabits n h.1, decide_eq_true List.length_replicate⟩,
    h.2 ▸ encList_replicate_length w n⟩

theorem hvec_witness {t : MTy} {w : Val} {B n : Nat} (hn : n < 2 ^ 64)
    (h : t.inhabits w = true ∧ (enc w).length = B) :
    (MTy.hvec t n).inhabits (.seq (List.replicate n w)) = true ∧
      (enc (.seq (List.replicate n w))).length = B * n + varintSize n := by
  refine ⟨Bool.and_eq_true_iff.2 ⟨replicate_inhabits n h.1,
    decide_eq_true (Nat.le_of_eq List.length_replicate)⟩, ?_⟩
  show (encVarint 64 (List.replicate n w).length ++ encList _).length = _
  rw [List.length_append, List.length_replicate, varint_len_eq_size hn,
    encList_replicate_length, h.2, Nat.add_comm]

theorem hstring_witness {n : Nat} (hn : n < 2 ^ 64) :
    (MTy.hstring n).inhabits (.str (List.replicate n 0x41)) = true ∧
      (enc (.str (List.replicate n 0x41))).length = n + varintSize n := by
  refine ⟨Bool.and_eq_true_iff.2 ⟨utf8Valid_replicate_ascii n,
    decide_eq_true (Nat.le_of_eq List.length_replicate)⟩, ?_⟩
  show (encVarint 64 (List.replicate n (0x41 : Byte)).length ++ _).length = _
  rw [List.length_append, List.length_replicate, varint_len_eq_size hn, Nat.add_comm]

theorem pair_witness {t : MTy} {w : Val} {B : Nat}
    (h : t.inhabits w = true ∧ (enc w).length = B) :
    (t.inhabits w && t.inhabits w) = true ∧ (enc (.struct [w, w])).length = B * 2 :=
  ⟨Bool.and_eq_true_iff.2 ⟨h.1, h.1⟩, by rw [enc_pair_length, h.2, Nat.mul_two]⟩

theorem single_witness {t : MTy} {w : Val} {B : Nat}
    (h : t.inhabits w = true ∧ (enc w).length = B) :
    t.inhabits w = true ∧ (enc (.struct [w])).length = B :=
  ⟨h.1, (congrArg List.length (encList_singleton w)).trans h.2⟩

theorem cons_witness {t : MTy} {ts : List MTy} {w : Val} {ws : List Val} {A B : Nat}
    (h : t.inhabits w = true ∧ (enc w).length = A)
    (hs : inhabitsList ts ws = true ∧ (encList ws).length = B) :
    inhabitsList (t :: ts) (w :: ws) = true ∧ (encList (w :: ws)).length = A + B :=
  ⟨Bool.and_eq_true_iff.2 ⟨h.1, hs.1⟩, h.2 ▸ hs.2 ▸ List.length_append⟩

/-- `Result<T, E>`: a test `c` that picks the side of length `M`. -/
theorem result_witness {t e : MTy} {a b : Val} {A B M : Nat} {c : Prop} [Decidable c]
    (hc : c → M = A) (hn : ¬ c → M = B)
    (ha : t.inhabits a = true ∧ (enc a).length = A)
    (hb : e.inhabits b = true ∧ (enc b).length = B) :
    (MTy.result t e).inhabits (if c then .newtypeVariant 0 a else .newtypeVariant 1 b) = true ∧
      (enc (if c then .newtypeVariant 0 a else .newtypeVariant 1 b)).length = M + 1 := by
  split
  next h => exact ⟨ha.1, (enc_newtypeVariant_small a (by decide)).trans (by rw [ha.2, hc h])⟩
  next h => exact ⟨hb.1, (enc_newtypeVariant_small b (by decide)).trans (by rw [hb.2, hn h])⟩

mutual
/-- C12 (tightness): for the tight types the explicit value `maxWitness m` is a
value of the type and its encoding has exactly `POSTCARD_MAX_SIZE` bytes. -/
theorem max_size_tight_witness (m : MTy) (ht : m.tight = true) (hw : m.wf = true) :
    m.inhabits (maxWitness m) = true ∧ (enc (maxWitness m)).length = maxSize m :=
  match m with
  | .bool | .unit | .phantom | .f32 | .f64 | .char => by decide
  | .int _ _ | .usize | .isize | .nonZero _ _ | .nonZeroUsize | .nonZeroIsize => intWitness_spec
  | .option t =>
    have ⟨h1, h2⟩ := max_size_tight_witness t ht hw
    ⟨h1, congrArg (· + 1) h2⟩
  | .result t e =>
    have ⟨htt, hte⟩ := Bool.and_eq_true_iff.1 ht
    have ⟨hwt, hwe⟩ := Bool.and_eq_true_iff.1 hw
    -- `maxWitness` and `rmax` test the same condition `maxSize t > maxSize e`
    result_witness (fun h => if_pos h) (fun h => if_neg h)
      (max_size_tight_witness t htt hwt) (max_size_tight_witness e hte hwe)
  | .array t n => array_witness n (max_size_tight_witness t ht (Bool.and_eq_true_iff.1 hw).1)
  | .tuple ts =>
    have ⟨h1, h2⟩ := tight_list ts ht hw
    ⟨h1, h2.trans (tupleSum_eq ts).symm⟩
  | .range t | .rangeInclusive t => pair_witness (max_size_tight_witness t ht hw)
  | .rangeFrom t | .rangeTo t => single_witness (max_size_tight_witness t ht hw)
  | .ref t => max_size_tight_witness t ht hw
  | .hvec t n =>
    have ⟨hwt, hn⟩ := Bool.and_eq_true_iff.1 hw
    hvec_witness (of_decide_eq_true hn) (max_size_tight_witness t ht hwt)
  | .hstring n =>
    have ⟨h1, h2⟩ := hstring_witness (of_decide_eq_true hw)
    ⟨h1, h2.trans (congrArg (· + varintSize n) (Nat.one_mul n).symm)⟩
  | .dstruct f => tight_struct f ht hw
  | .denum _ => nomatch ht
theorem tight_list : (ts : List MTy) → tightList ts = true → wfList ts = true →
    inhabitsList ts (maxWitnessList ts) = true ∧
    (encList (maxWitnessList ts)).length = sumFrom 0 ts
  | [] => fun _ _ => ⟨rfl, rfl⟩
  | t :: ts => fun ht hw =>
    have ⟨ht1, ht2⟩ := Bool.and_eq_true_iff.1 ht
    have ⟨hw1, hw2⟩ := Bool.and_eq_true_iff.1 hw
    sumFrom_cons t ts ▸ cons_witness (max_size_tight_witness t ht1 hw1) (tight_list ts ht2 hw2)
theorem tight_struct : (f : DFields) → DFields.tight f = true → DFields.wf f = true →
    DFields.inhabitsStruct f (DFields.structWitness f) = true ∧
    (enc (DFields.structWitness f)).length = DFields.sum f
  | .unit => fun _ _ => ⟨rfl, rfl⟩
  | .unnamed [t] => fun ht hw =>
    have ⟨h1, h2⟩ := tight_list [t] ht hw
    ⟨h1, (congrArg List.length (encList_singleton _)).symm.trans h2⟩
  | .unnamed [] | .unnamed (_ :: _ :: _) | .named _ => tight_list _
end

end Postcard
