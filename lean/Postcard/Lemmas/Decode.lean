import Postcard.Model.De
import Postcard.Model.Ser
import Postcard.Spec.Permitted
import Postcard.Lemmas.Varint
import Postcard.Lemmas.Codec
/-
  Postcard.Lemmas.Decode — strict prefixes of lists, the integer clauses of `dec`
  at a symbolic width, the walk of `decVariant`.
-/
namespace Postcard

theorem prefix_append_cases {α : Type} {q a b : List α} (h : q <+: a ++ b) (hne : q ≠ a ++ b) :
    (q <+: a ∧ q ≠ a) ∨ ∃ q2, q = a ++ q2 ∧ q2 <+: b ∧ q2 ≠ b := by
  rcases List.prefix_or_prefix_of_prefix h (List.prefix_append a b) with h1 | ⟨q2, rfl⟩
  · by_cases e : q = a
    · exact .inr ⟨[], by rw [e, List.append_nil], List.nil_prefix,
        fun e' => hne (by rw [e, ← e', List.append_nil])⟩
    · exact .inl ⟨h1, e⟩
  · exact .inr ⟨q2, rfl, (List.prefix_append_right_inj a).1 h, fun e => hne (by rw [e])⟩

theorem prefix_length_lt {α : Type} {q p : List α} (h : q <+: p) (hne : q ≠ p) :
    q.length < p.length :=
  Nat.lt_of_le_of_ne h.length_le fun e => hne (h.eq_of_length e)

theorem prefix_nil_of_ne {α : Type} {q : List α} (h : q <+: []) (hne : q ≠ []) : False :=
  hne (List.prefix_nil.1 h)

theorem prefix_singleton {α : Type} {q : List α} {a : α} (h : q <+: [a]) (hne : q ≠ [a]) :
    q = [] :=
  List.eq_nil_of_length_eq_zero (Nat.lt_one_iff.1 (prefix_length_lt h hne))

theorem dec_uN {w : IntW} (hw : w ≠ .w8) (bs : List Byte) :
    dec (.u w) bs = match decVarint w.bits bs with
      | .error e => .error e
      | .ok (n, r) => .ok (.u w n, r) := by
  cases w
  · exact absurd rfl hw
  all_goals rfl

theorem dec_iN {w : IntW} (hw : w ≠ .w8) (bs : List Byte) :
    dec (.i w) bs = match decVarint w.bits bs with
      | .error e => .error e
      | .ok (n, r) => .ok (.i w (unzigzag n), r) := by
  cases w
  · exact absurd rfl hw
  all_goals rfl

theorem dec_uN_error_iff {w : IntW} (hw : w ≠ .w8) (bs : List Byte) (e : Err) :
    dec (.u w) bs = .error e ↔ decVarint w.bits bs = .error e := by
  rw [dec_uN hw]
  cases decVarint w.bits bs <;> simp

theorem dec_iN_error_iff {w : IntW} (hw : w ≠ .w8) (bs : List Byte) (e : Err) :
    dec (.i w) bs = .error e ↔ decVarint w.bits bs = .error e := by
  rw [dec_iN hw]
  cases decVarint w.bits bs <;> simp

/-- an index past the end of the variant list is the visitor's `invalid_value`. -/
theorem decVariant_none : ∀ (vts : List Ty) (k idx : Nat) (bs : List Byte),
    vts[k]? = none → decVariant vts k idx bs = .error .custom
  | [], _, _, _, _ => rfl
  | _ :: _, 0, _, _, h => nomatch h
  | _ :: rest, k+1, idx, bs, h => decVariant_none rest k idx bs h

theorem decVariant_some : ∀ (vts : List Ty) (k idx : Nat) (bs : List Byte) (vt : Ty),
    vts[k]? = some vt → decVariant vts k idx bs = decVariant [vt] 0 idx bs
  | [], _, _, _, _, h => nomatch h
  | v :: rest, 0, idx, bs, vt, h => by
    -- both sides are the `match` on the descriptor at the head
    cases Option.some.inj h
    unfold decVariant
    rfl
  | _ :: rest, k+1, idx, bs, vt, h => decVariant_some rest k idx bs vt h

end Postcard
