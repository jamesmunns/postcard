import Postcard.Model.Entry
namespace Postcard

/-- The property theorems spell this out as `cs.flatMap Chunk.bytes` (equal by `rfl`; `crc_frame`
as `chunkBytesF`, Lemmas/Crc); the helpers say `chunkBytes`, for which the `simp` lemmas below are
stated. -/
def chunkBytes (cs : List Chunk) : List Byte := cs.flatMap Chunk.bytes

@[simp] theorem chunkBytes_nil : chunkBytes [] = [] := rfl
@[simp] theorem chunkBytes_cons (c : Chunk) (cs : List Chunk) :
    chunkBytes (c :: cs) = c.bytes ++ chunkBytes cs := by simp [chunkBytes]
@[simp] theorem chunkBytes_append (a b : List Chunk) :
    chunkBytes (a ++ b) = chunkBytes a ++ chunkBytes b := by simp [chunkBytes]

theorem chunkBytes_prefix {a b : List Chunk} (h : a <+: b) : chunkBytes a <+: chunkBytes b := by
  obtain ⟨t, rfl⟩ := h
  rw [chunkBytes_append]
  exact List.prefix_append _ _

theorem emit_flatten_all :
    (∀ v, (emit v).flatMap Chunk.bytes = enc v) ∧
    (∀ vs, (emitList vs).flatMap Chunk.bytes = encList vs) := by
  apply emit.mutual_induct
  all_goals intros
  all_goals simp only [emit, emitList, enc, encList, Chunk.bytes, List.flatMap_cons,
    List.flatMap_nil, List.flatMap_append, List.append_nil, List.cons_append, List.nil_append, *]

theorem emit_flatten : (v : Val) → (emit v).flatMap Chunk.bytes = enc v := emit_flatten_all.1
theorem emitList_flatten : (vs : List Val) → (emitList vs).flatMap Chunk.bytes = encList vs :=
  emit_flatten_all.2

theorem chunkBytes_emit (v : Val) : chunkBytes (emit v) = enc v := emit_flatten v

theorem Flavor.feed_append {σ ω} (F : Flavor σ ω) (s : σ) (a b : List Chunk) :
    F.feed s (a ++ b) =
      match F.feed s a with
      | (s', none) => F.feed s' b
      | (s', some e) => (s', some e) := by
  induction a generalizing s with
  | nil => rfl
  | cons c a ih =>
    simp only [List.cons_append, Flavor.feed]
    rcases F.step s c with ⟨s1, _ | e⟩
    · exact ih s1
    · rfl

theorem defaultExtend_append {σ} (push : σ → Byte → σ × Option Err) (s : σ) (a b : List Byte) :
    defaultExtend push s (a ++ b) =
      match defaultExtend push s a with
      | (s', none) => defaultExtend push s' b
      | (s', some e) => (s', some e) := by
  induction a generalizing s with
  | nil => rfl
  | cons x a ih =>
    simp only [List.cons_append, defaultExtend]
    rcases push s x with ⟨s1, _ | e⟩
    · exact ih s1
    · rfl

theorem defaultExtend_nil {σ} (push : σ → Byte → σ × Option Err) (s : σ) :
    defaultExtend push s [] = (s, none) := rfl

theorem defaultExtend_singleton {σ} (push : σ → Byte → σ × Option Err) (s : σ) (b : Byte) :
    defaultExtend push s [b] = push s b := by
  simp only [defaultExtend]
  rcases push s b with ⟨s', _ | e⟩ <;> rfl

theorem defaultExtend_append_ok {σ} {push : σ → Byte → σ × Option Err} {s s2 : σ}
    {a b : List Byte} (h : defaultExtend push s (a ++ b) = (s2, none)) :
    ∃ s1, defaultExtend push s a = (s1, none) ∧ defaultExtend push s1 b = (s2, none) := by
  rw [defaultExtend_append] at h
  rcases h1 : defaultExtend push s a with ⟨s1, _ | e⟩
  · rw [h1] at h; exact ⟨s1, rfl, h⟩
  · rw [h1] at h; cases h

theorem Flavor.feed_defaultExtend {σ ω} (F : Flavor σ ω)
    (hF : F.tryExtend = defaultExtend F.tryPush) (s : σ) (cs : List Chunk) :
    F.feed s cs = defaultExtend F.tryPush s (chunkBytes cs) := by
  induction cs generalizing s with
  | nil => rfl
  | cons c cs ih =>
    have hstep : F.step s c = defaultExtend F.tryPush s c.bytes := by
      cases c with
      | push b => exact (defaultExtend_singleton F.tryPush s b).symm
      | extend bs => exact congrFun (congrFun hF s) bs
    rw [chunkBytes_cons, defaultExtend_append, Flavor.feed, hstep]
    rcases defaultExtend F.tryPush s c.bytes with ⟨s1, _ | e⟩
    · exact ih s1
    · rfl

theorem defaultExtend_eq_feed {σ ω : Type} (F : Flavor σ ω) (s : σ) (bs : List Byte) :
    defaultExtend F.tryPush s bs = F.feed s (bs.map .push) := by
  induction bs generalizing s with
  | nil => rfl
  | cons b bs ih =>
    simp only [defaultExtend, List.map_cons, Flavor.feed, Flavor.step]
    rcases F.tryPush s b with ⟨s1, _ | e⟩
    · exact ih s1
    · rfl

theorem chunkBytes_map_push (bs : List Byte) : chunkBytes (bs.map .push) = bs := by
  induction bs with
  | nil => rfl
  | cons b bs ih => simp [Chunk.bytes, ih]

theorem chunkBytes_map_extend (ps : List (List Byte)) :
    chunkBytes (ps.map .extend) = ps.flatten := by
  induction ps with
  | nil => rfl
  | cons p ps ih => simp [Chunk.bytes, ih]

theorem AllocVec.step_eq (s : List Byte) (c : Chunk) :
    AllocVec.step s c = (s ++ c.bytes, none) := by
  cases c <;> rfl

theorem AllocVec.feed_eq (s : List Byte) (cs : List Chunk) :
    AllocVec.feed s cs = (s ++ chunkBytes cs, none) := by
  induction cs generalizing s with
  | nil => simp [Flavor.feed]
  | cons c cs ih =>
    simp only [Flavor.feed, AllocVec.step_eq, ih, chunkBytes_cons, List.append_assoc]

theorem AllocVec.setAt_eq (l : List Byte) (i : Nat) (b : Byte) (h : i < l.length) :
    AllocVec.setAt l i b = some (l.set i b) := if_pos h

theorem E2E.allocVec_tryPush (l : List Byte) (b : Byte) : AllocVec.tryPush l b = (l ++ [b], none) :=
  rfl

theorem AllocVec.defaultExtend_eq (s bs : List Byte) :
    defaultExtend AllocVec.tryPush s bs = (s ++ bs, none) := by
  rw [defaultExtend_eq_feed, AllocVec.feed_eq, chunkBytes_map_push]

theorem SizeFl.step_eq (s : Nat) (c : Chunk) : SizeFl.step s c = (s + c.bytes.length, none) := by
  cases c <;> rfl

theorem SizeFl.feed_eq (s : Nat) (cs : List Chunk) :
    SizeFl.feed s cs = (s + (chunkBytes cs).length, none) := by
  induction cs generalizing s with
  | nil => simp [Flavor.feed]
  | cons c cs ih =>
    simp only [Flavor.feed, SizeFl.step_eq, ih, chunkBytes_cons, List.length_append, Nat.add_assoc]

theorem writeAt_nil {mem : List Byte} {pos : Nat} : writeAt mem pos [] = mem := by
  simp [writeAt]

theorem writeAt_length {mem : List Byte} {pos : Nat} {bs : List Byte}
    (h : pos + bs.length ≤ mem.length) : (writeAt mem pos bs).length = mem.length := by
  simp [writeAt]; omega

theorem writeAt_zero (mem bs : List Byte) : writeAt mem 0 bs = bs ++ mem.drop bs.length := by
  simp [writeAt]

theorem writeAt_writeAt {mem : List Byte} {pos : Nat} (a b : List Byte) (hp : pos ≤ mem.length) :
    writeAt (writeAt mem pos a) (pos + a.length) b = writeAt mem pos (a ++ b) := by
  have hL : (mem.take pos ++ a).length = pos + a.length := by simp; omega
  unfold writeAt
  rw [List.take_left' hL, ← List.drop_drop, List.drop_left' hL, List.drop_drop]
  simp [Nat.add_assoc]

theorem set_eq_writeAt {mem : List Byte} {pos : Nat} (b : Byte) (h : pos < mem.length) :
    mem.set pos b = writeAt mem pos [b] := by
  rw [List.set_eq_take_append_cons_drop, if_pos h]
  simp [writeAt]

theorem writeAt_drop {mem : List Byte} {pos k : Nat} (bs : List Byte) (hp : pos ≤ mem.length)
    (hk : pos + bs.length ≤ k) : (writeAt mem pos bs).drop k = mem.drop k := by
  unfold writeAt
  have hl : (mem.take pos ++ bs).length = pos + bs.length := by
    rw [List.length_append, List.length_take, Nat.min_eq_left hp]
  rw [show k = (mem.take pos ++ bs).length + (k - (pos + bs.length)) by omega, ← List.drop_drop,
    List.drop_left' rfl, List.drop_drop, hl]

theorem writeAt_getElem?_lt {mem bs : List Byte} {pos i : Nat} (hp : pos ≤ mem.length)
    (hi : i < pos) : (writeAt mem pos bs)[i]? = mem[i]? := by
  simp [writeAt, List.getElem?_append, Nat.min_eq_left hp, hi]

theorem writeAt_getElem?_mid {mem bs : List Byte} {pos j : Nat} (hp : pos ≤ mem.length)
    (hj : j < bs.length) : (writeAt mem pos bs)[pos + j]? = bs[j]? := by
  simp [writeAt, List.getElem?_append, Nat.min_eq_left hp, hj]

theorem writeAt_getElem?_ge {mem bs : List Byte} {pos i : Nat} (hp : pos ≤ mem.length)
    (hi : pos + bs.length ≤ i) : (writeAt mem pos bs)[i]? = mem[i]? := by
  have := congrArg (·[0]?) (writeAt_drop bs hp hi)
  rwa [List.getElem?_drop, List.getElem?_drop] at this

theorem Slice.tryPush_of_lt {s : SliceSt} (b : Byte) (h : s.cursor < s.mem.length) :
    Slice.tryPush s b = (⟨s.mem.set s.cursor b, s.cursor + 1⟩, none) ∧
    (s.mem.set s.cursor b).take (s.cursor + 1) = s.mem.take s.cursor ++ [b] := by
  refine ⟨if_neg (Nat.ne_of_lt h), ?_⟩
  rw [List.take_add_one, List.take_set_of_le (Nat.le_refl _)]
  simp [h]

theorem Slice.step_eq (s : SliceSt) (c : Chunk) (hc : s.cursor ≤ s.mem.length) :
    Slice.step s c =
      if s.cursor + c.bytes.length ≤ s.mem.length then
        (⟨writeAt s.mem s.cursor c.bytes, s.cursor + c.bytes.length⟩, none)
      else (s, some .bufferFull) := by
  cases c with
  | push b =>
    by_cases h : s.cursor = s.mem.length
    · exact (if_pos h).trans (if_neg (show ¬ s.cursor + 1 ≤ _ by omega)).symm
    · refine (if_neg h).trans (.trans ?_ (if_pos (show s.cursor + 1 ≤ _ by omega)).symm)
      rw [set_eq_writeAt b (by omega)]; rfl
  | extend bs =>
    by_cases h : s.cursor + bs.length ≤ s.mem.length
    · exact (if_neg (show ¬ bs.length > _ by omega)).trans (if_pos h).symm
    · exact (if_pos (show bs.length > _ by omega)).trans (if_neg h).symm

theorem HVec.step_eq (s : HVecSt) (c : Chunk) :
    HVec.step s c =
      if s.vec.length + c.bytes.length ≤ s.cap then (⟨s.cap, s.vec ++ c.bytes⟩, none)
      else (s, some .bufferFull) := by
  cases c with
  | push b => rfl
  | extend bs =>
    by_cases h : s.vec.length + bs.length ≤ s.cap
    · exact (if_neg (Nat.not_lt.2 h)).trans (if_pos h).symm
    · exact (if_pos (Nat.lt_of_not_le h)).trans (if_neg h).symm

/-- the calls the serializer actually issues to `F`: up to and including the first failing one. -/
def Flavor.issued {σ ω} (F : Flavor σ ω) : σ → List Chunk → List Chunk
  | _, [] => []
  | s, c :: cs =>
    match F.step s c with
    | (s', none) => c :: F.issued s' cs
    | (_, some _) => [c]

theorem Flavor.issued_spec {σ ω} (F : Flavor σ ω) (s : σ) (cs : List Chunk) :
    F.issued s cs <+: cs ∧ F.feed s (F.issued s cs) = F.feed s cs ∧
      ((F.feed s cs).2 = none → F.issued s cs = cs) := by
  induction cs generalizing s with
  | nil => exact ⟨List.prefix_refl _, rfl, fun _ => rfl⟩
  | cons c cs ih =>
    simp only [Flavor.issued, Flavor.feed]
    rcases hst : F.step s c with ⟨s1, _ | e⟩
    · obtain ⟨h1, h2, h3⟩ := ih s1
      exact ⟨(List.prefix_cons_inj c).2 h1, by simp only [Flavor.feed, hst, h2],
        fun h => congrArg (c :: ·) (h3 h)⟩
    · exact ⟨⟨cs, rfl⟩, by simp only [Flavor.feed, hst], fun h => by cases h⟩

/-- The recording flavour: logs every call, never fails. -/
def Rec : Flavor (List Chunk) (List Chunk) where
  tryPush s b := (s ++ [.push b], none)
  tryExtend s bs := (s ++ [.extend bs], none)
  finalize s := (s, .ok s)
  setAt _ _ _ := none

theorem Rec.step_eq (s : List Chunk) (c : Chunk) : Rec.step s c = (s ++ [c], none) := by
  cases c <;> rfl

theorem Rec.feed_eq (s cs : List Chunk) : Rec.feed s cs = (s ++ cs, none) := by
  induction cs generalizing s with
  | nil => simp [Flavor.feed]
  | cons c cs ih =>
    simp only [Flavor.feed, Rec.step_eq, ih, List.append_assoc, List.singleton_append]

/-- The byte-recording flavour with the trait's DEFAULT `try_extend`: logs every
pushed byte. -/
def RecBytes : Flavor (List Byte) (List Byte) where
  tryPush s b := (s ++ [b], none)
  tryExtend := defaultExtend fun s b => (s ++ [b], none)
  finalize s := (s, .ok s)
  setAt _ _ _ := none

theorem RecBytes.feed_eq (s : List Byte) (cs : List Chunk) :
    RecBytes.feed s cs = (s ++ chunkBytes cs, none) := by
  rw [Flavor.feed_defaultExtend RecBytes rfl]
  exact AllocVec.defaultExtend_eq s _

/-- A fixed-capacity storage whose calls, `try_push` and `try_extend` alike, are all-or-nothing, and
whose `finalize` cannot fail. -/
structure Atomic {σ ω : Type} (F : Flavor σ ω) where
  used : σ → Nat
  cap : σ → Nat
  app : σ → List Byte → σ
  out : σ → ω
  step_eq : ∀ s c, used s ≤ cap s → F.step s c =
    if used s + c.bytes.length ≤ cap s then (app s c.bytes, none) else (s, some .bufferFull)
  used_app : ∀ s bs, used (app s bs) = used s + bs.length
  cap_app : ∀ s bs, used s + bs.length ≤ cap s → cap (app s bs) = cap s
  app_app : ∀ s a b, used s ≤ cap s → app (app s a) b = app s (a ++ b)
  app_nil : ∀ s, app s [] = s
  finalize_eq : ∀ s, F.finalize s = (s, .ok (out s))

section atomic
variable {σ ω : Type} {F : Flavor σ ω}

theorem Atomic.step_inv (A : Atomic F) (s : σ) (c : Chunk) (h : A.used s ≤ A.cap s) :
    A.cap (F.step s c).1 = A.cap s ∧ A.used (F.step s c).1 ≤ A.cap s := by
  rw [A.step_eq s c h]
  split
  · next hfit => exact ⟨A.cap_app s _ hfit, by rw [A.used_app]; exact hfit⟩
  · exact ⟨rfl, h⟩

/-- `k`: the longest run of whole calls that fits. -/
theorem Atomic.feed_eq (A : Atomic F) (cs : List Chunk) : ∀ s, A.used s ≤ A.cap s →
    ∃ k, (¬ A.used s + (chunkBytes cs).length ≤ A.cap s →
        k < cs.length ∧ ∀ j, A.used s + (chunkBytes (cs.take j)).length ≤ A.cap s ↔ j ≤ k) ∧
      F.feed s cs =
        if A.used s + (chunkBytes cs).length ≤ A.cap s then (A.app s (chunkBytes cs), none)
        else (A.app s (chunkBytes (cs.take k)), some .bufferFull) := by
  induction cs with
  | nil =>
    intro s hs
    exact ⟨0, fun h => absurd hs h,
      ((if_pos hs).trans (by rw [chunkBytes_nil, A.app_nil]; rfl)).symm⟩
  | cons c cs ih =>
    intro s hs
    simp only [chunkBytes_cons, List.length_append, ← Nat.add_assoc]
    by_cases hfit : A.used s + c.bytes.length ≤ A.cap s
    · obtain ⟨k, hk, he⟩ := ih (A.app s c.bytes)
        (by rw [A.used_app, A.cap_app s _ hfit]; exact hfit)
      rw [A.used_app, A.cap_app s _ hfit] at hk he
      refine ⟨k + 1, fun h => ⟨Nat.succ_lt_succ (hk h).1, fun j => ?_⟩, ?_⟩
      · cases j with
        | zero => exact ⟨fun _ => Nat.zero_le _, fun _ => hs⟩
        | succ j =>
          simpa only [List.take_succ_cons, chunkBytes_cons, List.length_append, ← Nat.add_assoc,
            Nat.succ_le_succ_iff] using (hk h).2 j
      · simp only [Flavor.feed, A.step_eq s c hs, if_pos hfit, he, A.app_app s _ _ hs,
          List.take_succ_cons, chunkBytes_cons]
    · have h : ¬ A.used s + c.bytes.length + (chunkBytes cs).length ≤ A.cap s :=
        fun h => hfit (Nat.le_trans (Nat.le_add_right _ _) h)
      refine ⟨0, fun _ => ⟨Nat.succ_pos _, fun j => ?_⟩, ?_⟩
      · cases j with
        | zero => exact ⟨fun _ => Nat.zero_le _, fun _ => hs⟩
        | succ j =>
          simp only [List.take_succ_cons, chunkBytes_cons, List.length_append, ← Nat.add_assoc]
          exact ⟨fun h => absurd (Nat.le_trans (Nat.le_add_right _ _) h) hfit, fun h => nomatch h⟩
      · simp only [Flavor.feed, A.step_eq s c hs, if_neg hfit, if_neg h, List.take_zero,
          chunkBytes_nil, A.app_nil]

theorem Atomic.defaultExtend_eq (A : Atomic F) (bs : List Byte) (s : σ) (hs : A.used s ≤ A.cap s) :
    defaultExtend F.tryPush s bs = (A.app s (bs.take (A.cap s - A.used s)),
      if A.used s + bs.length ≤ A.cap s then none else some .bufferFull) := by
  obtain ⟨k, hk, he⟩ := A.feed_eq (bs.map .push) s hs
  simp only [← List.map_take, chunkBytes_map_push, List.length_map, List.length_take] at hk he
  rw [defaultExtend_eq_feed, he]
  split
  · next h => rw [List.take_of_length_le (by omega)]
  · next h =>
    -- `k` bytes fit and `k + 1` do not
    have h1 := ((hk h).2 k).2 (Nat.le_refl k)
    have h2 := mt ((hk h).2 (k + 1)).1 (Nat.not_succ_le_self k)
    rw [show k = A.cap s - A.used s by omega]

theorem Atomic.serializeWith_eq (A : Atomic F) (s : σ) (hs : A.used s ≤ A.cap s) (v : Val) :
    ∃ p, p <+: enc v ∧ A.used s + p.length ≤ A.cap s ∧
      (A.used s + (enc v).length ≤ A.cap s → p = enc v) ∧
      serializeWith F s v = (A.app s p,
        if A.used s + (enc v).length ≤ A.cap s then .ok (A.out (A.app s (enc v)))
        else .error .bufferFull) := by
  obtain ⟨k, hk, he⟩ := A.feed_eq (emit v) s hs
  rw [chunkBytes_emit] at hk he
  by_cases h : A.used s + (enc v).length ≤ A.cap s
  · exact ⟨enc v, List.prefix_refl _, h, fun _ => rfl,
      by simp only [serializeWith, he, if_pos h, A.finalize_eq]⟩
  · exact ⟨_, chunkBytes_emit v ▸ chunkBytes_prefix (List.take_prefix k _),
      ((hk h).2 k).2 (Nat.le_refl k),
      fun n => absurd n h, by simp only [serializeWith, he, if_neg h]⟩

end atomic

def Slice.atomic : Atomic Slice where
  used s := s.cursor
  cap s := s.mem.length
  app s bs := ⟨writeAt s.mem s.cursor bs, s.cursor + bs.length⟩
  out s := s.mem.take s.cursor
  step_eq := Slice.step_eq
  used_app _ _ := rfl
  cap_app _ _ := writeAt_length
  app_app s a b hc := by simp only [writeAt_writeAt a b hc, List.length_append, Nat.add_assoc]
  app_nil s := by simp only [writeAt_nil, List.length_nil, Nat.add_zero]
  finalize_eq _ := rfl

def HVec.atomic : Atomic HVec where
  used s := s.vec.length
  cap s := s.cap
  app s bs := ⟨s.cap, s.vec ++ bs⟩
  out s := s.vec
  step_eq s c _ := HVec.step_eq s c
  used_app _ _ := List.length_append
  cap_app _ _ _ := rfl
  app_app _ _ _ _ := by simp only [List.append_assoc]
  app_nil _ := by simp only [List.append_nil]
  finalize_eq _ := rfl

theorem toAllocVec_eq (v : Val) : toAllocVec v = .ok (enc v) := by
  simp only [toAllocVec, serializeWith, AllocVec.feed_eq, chunkBytes_emit, List.nil_append]
  rfl

theorem toSlice_eq (v : Val) (buf : List Byte) :
    ∃ p, p <+: enc v ∧ p.length ≤ buf.length ∧ ((enc v).length ≤ buf.length → p = enc v) ∧
      toSlice v buf = (⟨p ++ buf.drop p.length, p.length⟩,
        if (enc v).length ≤ buf.length then .ok (enc v) else .error .bufferFull) := by
  simpa only [toSlice, Slice.atomic, writeAt_zero, Nat.zero_add, List.take_left'] using
    Slice.atomic.serializeWith_eq ⟨buf, 0⟩ (Nat.zero_le _) v

theorem toHVec_eq (cap : Nat) (v : Val) :
    ∃ p, p <+: enc v ∧ p.length ≤ cap ∧ ((enc v).length ≤ cap → p = enc v) ∧
      toHVec cap v =
        (⟨cap, p⟩, if (enc v).length ≤ cap then .ok (enc v) else .error .bufferFull) := by
  simpa only [toHVec, HVec.atomic, List.length_nil, Nat.zero_add, List.nil_append] using
    HVec.atomic.serializeWith_eq ⟨cap, []⟩ (Nat.zero_le _) v

/-- C05: `to_slice` succeeds iff the encoding fits, and then returns the encoding. -/
theorem to_slice_threshold (v : Val) (buf : List Byte) :
    (toSlice v buf).2 =
      if (enc v).length ≤ buf.length then .ok (enc v) else .error .bufferFull := by
  obtain ⟨p, _, _, _, he⟩ := toSlice_eq v buf
  rw [he]

/-- C05: `to_vec::<_, B>`, the same threshold with `B = cap`. -/
theorem to_hvec_threshold (cap : Nat) (v : Val) :
    (toHVec cap v).2 = if (enc v).length ≤ cap then .ok (enc v) else .error .bufferFull := by
  obtain ⟨p, _, _, _, he⟩ := toHVec_eq cap v
  rw [he]

end Postcard
