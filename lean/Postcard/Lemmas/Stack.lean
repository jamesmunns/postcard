import Postcard.Lemmas.Flavor
import Postcard.Lemmas.Cobs
import Postcard.Lemmas.Crc
namespace Postcard
open Spec

/-- `try_push` only (the crate's modifiers never call `try_extend` of their inner storage), then
`finalize`; errors are mapped as in `serialize_with_flavor`. -/
def Flavor.runBytes {σ ω} (F : Flavor σ ω) (s : σ) (bs : List Byte) : σ × R ω :=
  match defaultExtend F.tryPush s bs with
  | (s', some .panic) => (s', .error .panic)
  | (s', some _) => (s', .error .bufferFull)
  | (s', none) =>
    match F.finalize s' with
    | (s'', .ok out) => (s'', .ok out)
    | (s'', .error .panic) => (s'', .error .panic)
    | (s'', .error _) => (s'', .error .bufferFull)

abbrev crcFramed {w : Nat} (alg : CrcAlg w) (n : Nat) (m : List Byte) : List Byte :=
  m ++ leBytes n (crc alg m).toNat

theorem crcFramed_length {w : Nat} (alg : CrcAlg w) (n : Nat) (m : List Byte) :
    (crcFramed alg n m).length = m.length + n := by
  rw [List.length_append, leBytes_length]

theorem plain_composes {σ ω : Type} (F : Flavor σ ω)
    (hF : F.tryExtend = defaultExtend F.tryPush) (s : σ) (v : Val) :
    serializeWith F s v = F.runBytes s (enc v) := by
  unfold serializeWith Flavor.runBytes
  rw [Flavor.feed_defaultExtend F hF, chunkBytes_emit]
  rfl

theorem crcSer_tryExtend {σ ω : Type} {w : Nat} (alg : CrcAlg w) (n : Nat) (G : Flavor σ ω) :
    (CrcSer alg n G).tryExtend = defaultExtend (CrcSer alg n G).tryPush := rfl

/-- `serialize_with_flavor(v, CrcModifier::new(G, digest))` leaves ANY inner flavour `G` in the
state, and returns the result (success or error alike), of driving `G` byte-wise with
`enc v ++ checksum (enc v)` and finalizing it. -/
theorem stack_composes {σ ω : Type} {w : Nat} (alg : CrcAlg w) (n : Nat) (G : Flavor σ ω)
    (g : σ) (v : Val) :
    (serializeWith (CrcSer alg n G) (g, alg.init) v).1.1
        = (G.runBytes g (crcFramed alg n (enc v))).1 ∧
    (serializeWith (CrcSer alg n G) (g, alg.init) v).2
        = (G.runBytes g (crcFramed alg n (enc v))).2 := by
  obtain ⟨p, _, hp, he⟩ := crcSer_defaultExtend alg n G (enc v) g alg.init
  rw [plain_composes (CrcSer alg n G) (crcSer_tryExtend alg n G)]
  unfold Flavor.runBytes crcFramed crc
  rw [he, defaultExtend_append]
  -- the three places where `G` may refuse: a byte of `enc v`, a checksum byte, `finalize`
  rcases h1 : defaultExtend G.tryPush g (enc v) with ⟨g1, _ | e⟩
  · simp only [hp (by rw [h1]), crcSer_finalize_def]
    rcases defaultExtend G.tryPush g1
      (leBytes n (crcFinal alg (crcState alg alg.init (enc v))).toNat) with ⟨g2, _ | e⟩
    · dsimp only
      rcases G.finalize g2 with ⟨g3, e | out⟩
      · cases e <;> exact ⟨rfl, rfl⟩
      · exact ⟨rfl, rfl⟩
    · cases e <;> exact ⟨rfl, rfl⟩
  · cases e <;> exact ⟨rfl, rfl⟩

theorem Atomic.runBytes_eq {σ ω : Type} {F : Flavor σ ω} (A : Atomic F) {s : σ}
    (hs : A.used s ≤ A.cap s) (bs : List Byte) :
    F.runBytes s bs = (A.app s (bs.take (A.cap s - A.used s)),
      if A.used s + bs.length ≤ A.cap s then .ok (A.out (A.app s bs))
      else .error .bufferFull) := by
  rw [Flavor.runBytes, A.defaultExtend_eq bs s hs]
  by_cases h : A.used s + bs.length ≤ A.cap s
  · simp only [if_pos h, A.finalize_eq,
      List.take_of_length_le (show bs.length ≤ A.cap s - A.used s by omega)]
  · simp only [if_neg h]

section lawful
variable {σ : Type} {F : Flavor σ (List Byte)}

theorem LawfulIdx.runBytes_ok (L : LawfulIdx F) (s : σ) (bs : List Byte)
    (hroom : L.room s bs.length) : (F.runBytes s bs).2 = .ok (L.log s ++ bs) := by
  obtain ⟨s1, h1, hl1, _⟩ := L.extend_ok bs s 0 hroom
  rcases hfin : F.finalize s1 with ⟨s2, r⟩
  cases (congrArg Prod.snd hfin).symm.trans (L.finalize_ok s1)
  simp only [Flavor.runBytes, h1, hfin, hl1]

theorem cobs_runBytes (L : LawfulIdx F) (s0 : σ) (m : List Byte) (h0 : L.log s0 = [])
    (hroom : L.room s0 ((cobsEncode m).length + 1)) :
    ∃ st1, Cobs.tryNew F s0 = (st1, none) ∧
      ((Cobs F).runBytes st1 m).2 = .ok (cobsEncode m ++ [0]) := by
  obtain ⟨st1, st2, st3, h1, h2, h3⟩ := cobs_run_lawful L h0 m hroom
  exact ⟨st1, h1, by simp only [Flavor.runBytes, h2, h3]⟩

end lawful

theorem Rec.runBytes_eq (s : List Chunk) (bs : List Byte) :
    Rec.runBytes s bs = (s ++ bs.map Chunk.push, .ok (s ++ bs.map Chunk.push)) := by
  simp only [Flavor.runBytes, defaultExtend_eq_feed, Rec.feed_eq]
  rfl

end Postcard
