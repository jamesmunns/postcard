import Postcard.Model.SchemaSer
import Postcard.Lemmas.Bytes
import Postcard.Lemmas.Varint
/-
  The schema types on the wire (C15).  `conv` is the identity and the two derived serialisers
  coincide once the two index tables do (`conv_id_all`, `serBorrowed_eq_all`); `rt_schema`:
  `decOwned` reads back what `serOwned` wrote, by recursion on the schema with any fuel that covers
  its size, and `size_le_enc` bounds that size by the number of bytes.
-/
namespace Postcard

theorem kindOfIdxOwned_idxOwned (k : SchemaKind) : kindOfIdxOwned (idxOwned k) = some k := by
  cases k <;> rfl

theorem dataKindOfIdxOwned_dataIdxOwned (k : DataKind) :
    dataKindOfIdxOwned (dataIdxOwned k) = some k := by
  cases k <;> rfl

theorem idxOwned_lt (k : SchemaKind) : idxOwned k < 2 ^ 32 := by
  cases k <;> decide

theorem dataIdxOwned_lt (k : DataKind) : dataIdxOwned k < 2 ^ 32 := by
  cases k <;> decide

theorem conv_id_all :
    (∀ s, conv s = s) ∧ (∀ vs, convVariants vs = vs) ∧ (∀ d, convData d = d) ∧
    (∀ fs, convFields fs = fs) ∧ (∀ ts, convList ts = ts) := by
  -- Functional induction along the clauses of `conv`: the conjuncts stand in the order of the
  -- motives of `conv.mutual_induct`; every clause unfolds and rewrites with its induction
  -- hypotheses (`*`).
  apply conv.mutual_induct
  all_goals intros
  all_goals simp only [conv, convList, convData, convFields, convVariants, *]

/-- `OwnedDataModelType::from(&borrowed)` is the same tree: kind, names, order
and nesting are preserved (the model uses one tree type for both families, so
"the same tree" is equality). -/
theorem conv_id : ∀ s : Schema, conv s = s := conv_id_all.1
theorem convList_eq : ∀ ts : List Schema, convList ts = ts := conv_id_all.2.2.2.2
theorem convData_id : ∀ d : SData, convData d = d := conv_id_all.2.2.1
theorem convFields_eq : ∀ fs : List SField, convFields fs = fs := conv_id_all.2.2.2.1
theorem convVariants_eq : ∀ vs : List SVariant, convVariants vs = vs := conv_id_all.2.1

section Punning
variable (ht : ∀ k, idxBorrowed k = idxOwned k) (hd : ∀ k, dataIdxBorrowed k = dataIdxOwned k)
include ht hd

/-- Both serialisers follow the same clauses; only the index tables could differ. -/
theorem serBorrowed_eq_all :
    (∀ s, serBorrowed s = serOwned s) ∧ (∀ vs, serBorrowedVariants vs = serOwnedVariants vs) ∧
    (∀ d, serBorrowedData d = serOwnedData d) ∧ (∀ fs, serBorrowedFields fs = serOwnedFields fs) ∧
    (∀ ts, serBorrowedList ts = serOwnedList ts) := by
  apply serBorrowed.mutual_induct
  all_goals intros
  -- `*`: the induction hypotheses and the two table hypotheses
  all_goals simp only [serBorrowed, serBorrowedList, serBorrowedData, serBorrowedFields,
    serBorrowedVariants, serOwned, serOwnedList, serOwnedData, serOwnedFields, serOwnedVariants, *]

theorem serBorrowed_eq : ∀ s : Schema, serBorrowed s = serOwned s := (serBorrowed_eq_all ht hd).1
theorem serBorrowedList_eq : ∀ ts : List Schema, serBorrowedList ts = serOwnedList ts :=
  (serBorrowed_eq_all ht hd).2.2.2.2
theorem serBorrowedData_eq : ∀ d : SData, serBorrowedData d = serOwnedData d :=
  (serBorrowed_eq_all ht hd).2.2.1
theorem serBorrowedFields_eq : ∀ fs : List SField, serBorrowedFields fs = serOwnedFields fs :=
  (serBorrowed_eq_all ht hd).2.2.2.1
theorem serBorrowedVariants_eq : ∀ vs : List SVariant,
    serBorrowedVariants vs = serOwnedVariants vs :=
  (serBorrowed_eq_all ht hd).2.1

end Punning

/-- The two enum declarations number their variants identically. -/
theorem tables_equal : ∀ k : SchemaKind, idxBorrowed k = idxOwned k := by
  intro k; cases k <;> rfl

theorem data_tables_equal : ∀ k : DataKind, dataIdxBorrowed k = dataIdxOwned k := by
  intro k; cases k <;> rfl

theorem Schema.size_pos (s : Schema) : 0 < s.size := by
  cases s
  all_goals simp only [Schema.size]
  all_goals omega

theorem SData.size_pos (d : SData) : 0 < d.size := by
  cases d
  all_goals simp only [SData.size]
  all_goals omega

theorem serOwnedList_length (ts : List Schema) : (serOwnedList ts).length = ts.length := by
  induction ts with
  | nil => rfl
  | cons t ts ih => simp [serOwnedList, ih]

theorem serOwnedFields_length (fs : List SField) : (serOwnedFields fs).length = fs.length := by
  induction fs with
  | nil => rfl
  | cons f fs ih => cases f; simp [serOwnedFields, ih]

theorem serOwnedVariants_length (vs : List SVariant) :
    (serOwnedVariants vs).length = vs.length := by
  induction vs with
  | nil => rfl
  | cons v vs ih => cases v; simp [serOwnedVariants, ih]

theorem varint_rt_32_64 : ∀ bits n rest, (bits = 32 ∨ bits = 64) → n < 2 ^ bits →
    decVarint bits (encVarint bits n ++ rest) = .ok (n, rest) := by
  intro bits n rest hb hn
  rcases hb with rfl | rfl
  · exact decVarint_encVarint widthOk32 hn rest
  · exact decVarint_encVarint widthOk64 hn rest

-- The round-trip theorems take the varint round trip at the two widths they use as the hypothesis
-- `hv`; it is `varint_rt_32_64`.
section RT
variable (hv : ∀ bits n rest, (bits = 32 ∨ bits = 64) → n < 2 ^ bits →
    decVarint bits (encVarint bits n ++ rest) = .ok (n, rest))
include hv

theorem decName_enc {n : Name} (h : nameOk n = true) (rest : List Byte) :
    decName (encVarint 64 n.length ++ (n ++ rest)) = .ok (n, rest) := by
  simp only [nameOk, Bool.and_eq_true, decide_eq_true_eq] at h
  rw [decName, hv 64 _ _ (.inr rfl) h.2]
  simp [takeN_append, h.1]

theorem decBoxSlice_enc {α : Type} {g : List Byte → R (α × List Byte)} {n : Nat}
    (hn : n < 2 ^ 64) (bs : List Byte) :
    decBoxSlice g (encVarint 64 n ++ bs) = decElems g n bs := by
  rw [decBoxSlice, hv 64 _ _ (.inr rfl) hn]

theorem decVarint_tag (k : SchemaKind) (rest : List Byte) :
    decVarint 32 (encVarint 32 (idxOwned k) ++ rest) = .ok (idxOwned k, rest) :=
  hv 32 _ _ (.inl rfl) (idxOwned_lt k)

theorem decVarint_dataTag (k : DataKind) (rest : List Byte) :
    decVarint 32 (encVarint 32 (dataIdxOwned k) ++ rest) = .ok (dataIdxOwned k, rest) :=
  hv 32 _ _ (.inl rfl) (dataIdxOwned_lt k)

-- `rt_list`, `rt_fields` and `rt_variants` need `hv` only through their siblings, which the linter
-- does not see.
set_option linter.unusedSectionVars false
mutual
theorem rt_schema : ∀ (s : Schema) (fuel : Nat) (rest : List Byte), s.size ≤ fuel → s.wf = true →
    decOwned fuel (enc (serOwned s) ++ rest) = .ok (s, rest)
  | s, 0 => fun _ hs _ => absurd hs (Nat.not_le.2 s.size_pos)
  | .option t, f+1 | .seq t, f+1 => fun rest hs hw => by
    -- In every arm: unfold writer and reader.  The reader gets the tag back (`decVarint_tag`), the
    -- table turns it into the kind, and the recursive calls read the children with fuel `f`.
    simp only [Schema.size, Schema.wf] at hs hw
    simp only [serOwned, enc, List.append_assoc, decOwned, decVarint_tag hv,
      kindOfIdxOwned_idxOwned, rt_schema t f rest (by omega) hw]
  | .tuple ts, f+1 => fun rest hs hw => by
    simp only [Schema.size, Schema.wf, Bool.and_eq_true, decide_eq_true_eq] at hs hw
    simp only [serOwned, enc, List.append_assoc, decOwned, decVarint_tag hv,
      kindOfIdxOwned_idxOwned, serOwnedList_length, decBoxSlice_enc hv hw.1,
      rt_list ts f rest (by omega) hw.2]
  | .map k v, f+1 => fun rest hs hw => by
    simp only [Schema.size, Schema.wf, Bool.and_eq_true] at hs hw
    simp only [serOwned, enc, encList, List.append_nil, List.append_assoc, decOwned,
      decVarint_tag hv, kindOfIdxOwned_idxOwned, rt_schema k f _ (by omega) hw.1,
      rt_schema v f _ (by omega) hw.2]
  | .struct n d, f+1 => fun rest hs hw => by
    simp only [Schema.size, Schema.wf, Bool.and_eq_true] at hs hw
    simp only [serOwned, enc, encList, List.append_nil, List.append_assoc, decOwned,
      decVarint_tag hv, kindOfIdxOwned_idxOwned, decName_enc hv hw.1,
      rt_data d f _ (by omega) hw.2]
  | .enum n vs, f+1 => fun rest hs hw => by
    simp only [Schema.size, Schema.wf, Bool.and_eq_true, decide_eq_true_eq] at hs hw
    simp only [serOwned, enc, encList, List.append_nil, List.append_assoc, decOwned,
      decVarint_tag hv, kindOfIdxOwned_idxOwned, decName_enc hv hw.1.1,
      serOwnedVariants_length, decBoxSlice_enc hv hw.1.2, rt_variants vs f rest (by omega) hw.2]
  | .bool, f+1 | .i8, f+1 | .u8, f+1
  | .i16, f+1 | .i32, f+1 | .i64, f+1
  | .i128, f+1 | .u16, f+1 | .u32, f+1
  | .u64, f+1 | .u128, f+1 | .usize, f+1
  | .isize, f+1 | .f32, f+1 | .f64, f+1
  | .char, f+1 | .string, f+1 | .byteArray, f+1
  | .unit, f+1 | .schema, f+1 => fun _ _ _ => rfl  -- the tag byte is a numeral
theorem rt_list : ∀ (ts : List Schema) (fuel : Nat) (rest : List Byte),
    Schema.sizeList ts ≤ fuel → Schema.wfList ts = true →
    decElems (decOwned fuel) ts.length (encList (serOwnedList ts) ++ rest) = .ok (ts, rest)
  | [] => fun _ _ _ _ => rfl
  | t :: ts => fun fuel rest hs hw => by
    simp only [Schema.sizeList, Schema.wfList, Bool.and_eq_true] at hs hw
    simp only [serOwnedList, encList, List.length_cons, decElems, List.append_assoc,
      rt_schema t fuel _ (by omega) hw.1, rt_list ts fuel rest (by omega) hw.2]
theorem rt_data : ∀ (d : SData) (fuel : Nat) (rest : List Byte), d.size ≤ fuel → d.wf = true →
    decOwnedData fuel (enc (serOwnedData d) ++ rest) = .ok (d, rest)
  | d, 0 => fun _ hs _ => absurd hs (Nat.not_le.2 d.size_pos)
  | .unit, f+1 => fun _ _ _ => rfl
  | .newtype t, f+1 => fun rest hs hw => by
    simp only [SData.size, SData.wf] at hs hw
    simp only [serOwnedData, enc, List.append_assoc, decOwnedData, decVarint_dataTag hv,
      dataKindOfIdxOwned_dataIdxOwned, rt_schema t f rest (by omega) hw]
  | .tuple ts, f+1 => fun rest hs hw => by
    simp only [SData.size, SData.wf, Bool.and_eq_true, decide_eq_true_eq] at hs hw
    simp only [serOwnedData, enc, List.append_assoc, decOwnedData, decVarint_dataTag hv,
      dataKindOfIdxOwned_dataIdxOwned,
      serOwnedList_length, decBoxSlice_enc hv hw.1, rt_list ts f rest (by omega) hw.2]
  | .struct fs, f+1 => fun rest hs hw => by
    simp only [SData.size, SData.wf, Bool.and_eq_true, decide_eq_true_eq] at hs hw
    simp only [serOwnedData, enc, List.append_assoc, decOwnedData, decVarint_dataTag hv,
      dataKindOfIdxOwned_dataIdxOwned,
      serOwnedFields_length, decBoxSlice_enc hv hw.1, rt_fields fs f rest (by omega) hw.2]
theorem rt_fields : ∀ (fs : List SField) (fuel : Nat) (rest : List Byte),
    SField.sizeList fs ≤ fuel → SField.wfList fs = true →
    decElems (decField (decOwned fuel)) fs.length (encList (serOwnedFields fs) ++ rest)
      = .ok (fs, rest)
  | [] => fun _ _ _ _ => rfl
  | .mk n t :: fs => fun fuel rest hs hw => by
    simp only [SField.sizeList, SField.wfList, Bool.and_eq_true] at hs hw
    simp only [serOwnedFields, enc, encList, List.length_cons, decElems, decField,
      List.append_nil, List.append_assoc, decName_enc hv hw.1.1,
      rt_schema t fuel _ (by omega) hw.1.2, rt_fields fs fuel rest (by omega) hw.2]
theorem rt_variants : ∀ (vs : List SVariant) (fuel : Nat) (rest : List Byte),
    SVariant.sizeList vs ≤ fuel → SVariant.wfList vs = true →
    decElems (decVariantEntry (decOwnedData fuel)) vs.length
      (encList (serOwnedVariants vs) ++ rest) = .ok (vs, rest)
  | [] => fun _ _ _ _ => rfl
  | .mk n d :: vs => fun fuel rest hs hw => by
    simp only [SVariant.sizeList, SVariant.wfList, Bool.and_eq_true] at hs hw
    simp only [serOwnedVariants, enc, encList, List.length_cons, decElems, decVariantEntry,
      List.append_nil, List.append_assoc, decName_enc hv hw.1.1,
      rt_data d fuel _ (by omega) hw.1.2, rt_variants vs fuel rest (by omega) hw.2]
end
end RT

theorem tag_length (k : SchemaKind) : (encVarint 32 (idxOwned k)).length = 1 := by
  cases k <;> rfl

theorem dataTag_length (k : DataKind) : (encVarint 32 (dataIdxOwned k)).length = 1 := by
  cases k <;> rfl

/-- Every node occupies at least its tag byte, so `bs.length + 1` is enough fuel. -/
theorem size_le_enc_all :
    (∀ s : Schema, s.size ≤ (enc (serOwned s)).length) ∧
    (∀ vs, SVariant.sizeList vs ≤ (encList (serOwnedVariants vs)).length) ∧
    (∀ d : SData, d.size ≤ (enc (serOwnedData d)).length) ∧
    (∀ fs, SField.sizeList fs ≤ (encList (serOwnedFields fs)).length) ∧
    (∀ ts, Schema.sizeList ts ≤ (encList (serOwnedList ts)).length) := by
  apply serOwned.mutual_induct
  all_goals intros
  all_goals simp only [Schema.size, Schema.sizeList, SData.size, SField.sizeList,
    SVariant.sizeList, serOwned, serOwnedList, serOwnedData, serOwnedFields, serOwnedVariants,
    enc, encList, List.length_append, List.length_nil, tag_length, dataTag_length, Nat.le_refl]
  all_goals omega

theorem size_le_enc : ∀ s : Schema, s.size ≤ (enc (serOwned s)).length := size_le_enc_all.1
theorem sizeList_le_enc : ∀ ts : List Schema,
    Schema.sizeList ts ≤ (encList (serOwnedList ts)).length := size_le_enc_all.2.2.2.2
theorem dataSize_le_enc : ∀ d : SData, d.size ≤ (enc (serOwnedData d)).length :=
  size_le_enc_all.2.2.1
theorem fieldsSize_le_enc : ∀ fs : List SField,
    SField.sizeList fs ≤ (encList (serOwnedFields fs)).length := size_le_enc_all.2.2.2.1
theorem variantsSize_le_enc : ∀ vs : List SVariant,
    SVariant.sizeList vs ≤ (encList (serOwnedVariants vs)).length := size_le_enc_all.2.1

end Postcard
