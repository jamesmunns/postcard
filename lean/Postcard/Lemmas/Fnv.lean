import Postcard.Model.SchemaHash
import Postcard.Spec.Fnv
import Postcard.Lemmas.Bytes
/-
  The schema keys (C16).  Both tree hashers fold `hash_update` over the documented stream
  (`hashers_eq_stream`).  One FNV-1a round is injective in the state and in the byte, so byte
  strings that differ in exactly one position (`Diff1`) hash differently from any start state
  (`fnv1aFrom_ne_of_diff1`).  A one-hole context `Ctx` wraps the stream of what is plugged in
  between a fixed prefix and suffix (`stream_plug`), which carries `Diff1` from a subtree to the
  whole tree.
-/
namespace Postcard
open Spec

theorem FNV_PRIME_eq : FNV_PRIME = Spec.fnvPrime := rfl
theorem FNV_BASIS_eq : FNV_BASIS = Spec.fnvBasis := rfl

theorem hashUpdate_nil (st : UInt64) : hashUpdate st [] = st := rfl

theorem hashUpdate_cons (st : UInt64) (b : Byte) (bs : List Byte) :
    hashUpdate st (b :: bs) = hashUpdate (Spec.fnvStep st b) bs := rfl

theorem hashUpdate_single (st : UInt64) (b : Byte) :
    hashUpdate st [b] = Spec.fnvStep st b := rfl

theorem hashUpdate_eq_fnv1aFrom : ∀ (st : UInt64) (bs : List Byte),
    hashUpdate st bs = Spec.fnv1aFrom st bs
  | _, [] => rfl
  | st, b :: bs => hashUpdate_eq_fnv1aFrom (Spec.fnvStep st b) bs

theorem hashUpdate_append' (st : UInt64) (xs ys : List Byte) :
    hashUpdate st (xs ++ ys) = hashUpdate (hashUpdate st xs) ys :=
  match xs with
  | [] => rfl
  | b :: bs => hashUpdate_append' (Spec.fnvStep st b) bs ys

theorem fnv1aFrom_append (st : UInt64) (xs ys : List Byte) :
    Spec.fnv1aFrom st (xs ++ ys) = Spec.fnv1aFrom (Spec.fnv1aFrom st xs) ys :=
  List.foldl_append

theorem hashers_eq_stream :
    (∀ st s, hashSdmType st s = hashUpdate st (Spec.stream s) ∧
      hashSdmTypeOwned st s = hashUpdate st (Spec.stream s)) ∧
    (∀ st vs, hashVariantList st vs = hashUpdate st (Spec.streamVariants vs) ∧
      hashVariantOwnedList st vs = hashUpdate st (Spec.streamVariants vs)) ∧
    (∀ st v, hashVariant st v = hashUpdate st (Spec.streamVariant v) ∧
      hashVariantOwned st v = hashUpdate st (Spec.streamVariant v)) ∧
    (∀ st fs, hashNamedFieldList st fs = hashUpdate st (Spec.streamFields fs) ∧
      hashNamedFieldOwnedList st fs = hashUpdate st (Spec.streamFields fs)) ∧
    (∀ st f, hashNamedField st f = hashUpdate st (Spec.streamField f) ∧
      hashNamedFieldOwned st f = hashUpdate st (Spec.streamField f)) ∧
    (∀ st ts, hashSdmTypeList st ts = hashUpdate st (Spec.streamList ts) ∧
      hashSdmTypeOwnedList st ts = hashUpdate st (Spec.streamList ts)) ∧
    (∀ st (n : Name) d, hashStruct st n d = hashUpdate st (Spec.streamStructData d) ∧
      hashStructOwned st n d = hashUpdate st (Spec.streamStructData d)) := by
  -- Functional induction along the clauses of the borrowed hasher (conjuncts in the order of the
  -- motives of `hashSdmType.mutual_induct`); the owned copy has the same clauses, so the same
  -- hypotheses serve it.  The leaf clauses hold by evaluation.  The others bind their intermediate
  -- states by `let`, and the induction hypotheses start from those variables (in a list clause
  -- from `hashSdmType state t`, which the hypothesis for `t` rewrites): hence `zetaDelta`, and
  -- `simp_all`, which brings the hypotheses to the normal form of the goal before it uses them.
  apply hashSdmType.mutual_induct
  all_goals try exact fun _ => ⟨rfl, rfl⟩
  all_goals intros
  all_goals simp_all +zetaDelta only [hashSdmType, hashSdmTypeList, hashStruct, hashVariant,
    hashVariantList, hashNamedField, hashNamedFieldList, hashSdmTypeOwned, hashSdmTypeOwnedList,
    hashStructOwned, hashVariantOwned, hashVariantOwnedList, hashNamedFieldOwned,
    hashNamedFieldOwnedList, Spec.stream, Spec.streamList, Spec.streamStructData,
    Spec.streamVariantData, Spec.streamField, Spec.streamFields, Spec.streamVariant,
    Spec.streamVariants, Spec.tag, hashUpdate_append', hashUpdate_cons, hashUpdate_nil, and_self]

theorem hashSdmTypeList_eq (st : UInt64) (ts : List Schema) :
    hashSdmTypeList st ts = hashUpdate st (Spec.streamList ts) :=
  (hashers_eq_stream.2.2.2.2.2.1 st ts).1
theorem hashStruct_eq (st : UInt64) (n : Name) (d : SData) :
    hashStruct st n d = hashUpdate st (Spec.streamStructData d) :=
  (hashers_eq_stream.2.2.2.2.2.2 st n d).1
theorem hashVariant_eq (st : UInt64) (v : SVariant) :
    hashVariant st v = hashUpdate st (Spec.streamVariant v) :=
  (hashers_eq_stream.2.2.1 st v).1
theorem hashVariantList_eq (st : UInt64) (vs : List SVariant) :
    hashVariantList st vs = hashUpdate st (Spec.streamVariants vs) :=
  (hashers_eq_stream.2.1 st vs).1
theorem hashNamedField_eq (st : UInt64) (f : SField) :
    hashNamedField st f = hashUpdate st (Spec.streamField f) :=
  (hashers_eq_stream.2.2.2.2.1 st f).1
theorem hashNamedFieldList_eq (st : UInt64) (fs : List SField) :
    hashNamedFieldList st fs = hashUpdate st (Spec.streamFields fs) :=
  (hashers_eq_stream.2.2.2.1 st fs).1

theorem hashSdmTypeOwnedList_eq (st : UInt64) (ts : List Schema) :
    hashSdmTypeOwnedList st ts = hashUpdate st (Spec.streamList ts) :=
  (hashers_eq_stream.2.2.2.2.2.1 st ts).2
theorem hashStructOwned_eq (st : UInt64) (n : Name) (d : SData) :
    hashStructOwned st n d = hashUpdate st (Spec.streamStructData d) :=
  (hashers_eq_stream.2.2.2.2.2.2 st n d).2
theorem hashVariantOwned_eq (st : UInt64) (v : SVariant) :
    hashVariantOwned st v = hashUpdate st (Spec.streamVariant v) :=
  (hashers_eq_stream.2.2.1 st v).2
theorem hashVariantOwnedList_eq (st : UInt64) (vs : List SVariant) :
    hashVariantOwnedList st vs = hashUpdate st (Spec.streamVariants vs) :=
  (hashers_eq_stream.2.1 st vs).2
theorem hashNamedFieldOwned_eq (st : UInt64) (f : SField) :
    hashNamedFieldOwned st f = hashUpdate st (Spec.streamField f) :=
  (hashers_eq_stream.2.2.2.2.1 st f).2
theorem hashNamedFieldOwnedList_eq (st : UInt64) (fs : List SField) :
    hashNamedFieldOwnedList st fs = hashUpdate st (Spec.streamFields fs) :=
  (hashers_eq_stream.2.2.2.1 st fs).2

/-- multiplicative inverse of the FNV prime modulo 2^64 -/
def pinv : UInt64 := 0xce965057aff6957b

theorem prime_mul_pinv : Spec.fnvPrime * pinv = 1 := by decide

theorem mul_prime_inj {a b : UInt64} (h : a * Spec.fnvPrime = b * Spec.fnvPrime) : a = b := by
  have h' := congrArg (· * pinv) h
  simpa [UInt64.mul_assoc, prime_mul_pinv] using h'

theorem fnvStep_inj_state {b : Byte} {h h' : UInt64}
    (e : Spec.fnvStep h b = Spec.fnvStep h' b) : h = h' :=
  (UInt64.xor_left_inj _).1 (mul_prime_inj e)

theorem fnvStep_inj_byte {h : UInt64} {b b' : Byte}
    (e : Spec.fnvStep h b = Spec.fnvStep h b') : b = b' :=
  UInt8.toUInt64_inj.1 ((UInt64.xor_right_inj _).1 (mul_prime_inj e))

theorem fnv1aFrom_inj_state : ∀ (bs : List Byte) {h h' : UInt64},
    Spec.fnv1aFrom h bs = Spec.fnv1aFrom h' bs → h = h'
  | [], _, _, e => e
  | _ :: bs, _, _, e => fnvStep_inj_state (fnv1aFrom_inj_state bs e)

def Diff1 (xs ys : List Byte) : Prop :=
  ∃ pre a b post, a ≠ b ∧ xs = pre ++ a :: post ∧ ys = pre ++ b :: post

theorem Diff1.single (pre post : List Byte) {a b : Byte} (hab : a ≠ b) :
    Diff1 (pre ++ [a] ++ post) (pre ++ [b] ++ post) :=
  ⟨pre, a, b, post, hab, List.append_assoc .., List.append_assoc ..⟩

theorem Diff1.wrap {xs ys : List Byte} (h : Diff1 xs ys) (p q : List Byte) :
    Diff1 (p ++ xs ++ q) (p ++ ys ++ q) := by
  obtain ⟨pre, a, b, post, hab, rfl, rfl⟩ := h
  exact ⟨p ++ pre, a, b, post ++ q, hab, by simp, by simp⟩

theorem Diff1.ne {xs ys : List Byte} (h : Diff1 xs ys) : xs ≠ ys := by
  obtain ⟨pre, a, b, post, hab, rfl, rfl⟩ := h
  exact fun e => hab (List.cons.inj (List.append_cancel_left e)).1

theorem Diff1.length_eq {xs ys : List Byte} (h : Diff1 xs ys) : xs.length = ys.length := by
  obtain ⟨pre, a, b, post, _, rfl, rfl⟩ := h
  simp

theorem Diff1.of_index {xs ys : List Byte} (hl : xs.length = ys.length)
    (h : ∃ i : Nat, xs[i]? ≠ ys[i]? ∧ ∀ j : Nat, j ≠ i → xs[j]? = ys[j]?) : Diff1 xs ys := by
  obtain ⟨i, hne, hrest⟩ := h
  have hx : i < xs.length := Nat.lt_of_not_le fun h =>
    hne (by rw [List.getElem?_eq_none h, List.getElem?_eq_none (hl ▸ h)])
  have hy : i < ys.length := hl ▸ hx
  refine ⟨xs.take i, xs[i], ys[i], xs.drop (i + 1), ?_, ?_, ?_⟩
  · intro e
    exact hne (by rw [List.getElem?_eq_getElem hx, List.getElem?_eq_getElem hy, e])
  · rw [← List.drop_eq_getElem_cons hx, List.take_append_drop]
  · have ht : xs.take i = ys.take i := List.ext_getElem? fun j => by
      rw [List.getElem?_take, List.getElem?_take]
      split
      · exact hrest j (by omega)
      · rfl
    have hd : xs.drop (i + 1) = ys.drop (i + 1) := List.ext_getElem? fun j => by
      rw [List.getElem?_drop, List.getElem?_drop]
      exact hrest _ (by omega)
    rw [ht, hd, ← List.drop_eq_getElem_cons hy, List.take_append_drop]

theorem fnv1aFrom_ne_of_diff1 (h : UInt64) {xs ys : List Byte} (d : Diff1 xs ys) :
    Spec.fnv1aFrom h xs ≠ Spec.fnv1aFrom h ys := by
  obtain ⟨pre, a, b, post, hab, rfl, rfl⟩ := d
  intro e
  rw [fnv1aFrom_append, fnv1aFrom_append] at e
  exact hab (fnvStep_inj_byte (fnv1aFrom_inj_state post e))

theorem le64_inj {x y : UInt64} (h : Spec.le64 x = Spec.le64 y) : x = y := by
  have h' := congrArg ofLeBytes h
  rw [Spec.le64, Spec.le64, ofLeBytes_leBytes x.toNat_lt, ofLeBytes_leBytes y.toNat_lt] at h'
  exact UInt64.toNat_inj.mp h'

theorem u64le_eq_le64 (x : UInt64) : u64le x = Spec.le64 x := rfl

theorem streamList_append (xs ys : List Schema) :
    Spec.streamList (xs ++ ys) = Spec.streamList xs ++ Spec.streamList ys := by
  induction xs with
  | nil => rfl
  | cons x xs ih => simp [Spec.streamList, ih]

theorem streamFields_append (xs ys : List SField) :
    Spec.streamFields (xs ++ ys) = Spec.streamFields xs ++ Spec.streamFields ys := by
  induction xs with
  | nil => rfl
  | cons x xs ih => simp [Spec.streamFields, ih]

theorem streamVariants_append (xs ys : List SVariant) :
    Spec.streamVariants (xs ++ ys) = Spec.streamVariants xs ++ Spec.streamVariants ys := by
  induction xs with
  | nil => rfl
  | cons x xs ih => simp [Spec.streamVariants, ih]

theorem streamList_single (t : Schema) : Spec.streamList [t] = Spec.stream t :=
  List.append_nil _
theorem streamFields_single (f : SField) : Spec.streamFields [f] = Spec.streamField f :=
  List.append_nil _
theorem streamVariants_single (v : SVariant) : Spec.streamVariants [v] = Spec.streamVariant v :=
  List.append_nil _

/-- One step from a node to one of its `Schema`-typed children; a one-hole context is a list of
frames (outermost first).  Every position in a schema tree at which a `Schema` can sit is reached by
exactly one context. -/
inductive Frame
  | option
  | seq
  | tupleElem (pre post : List Schema)
  | mapKey (val : Schema)
  | mapVal (key : Schema)
  | structNewtype (n : Name)
  | structTupleElem (n : Name) (pre post : List Schema)
  | structField (n : Name) (pre : List SField) (fname : Name) (post : List SField)
  | variantNewtype (n : Name) (pre : List SVariant) (vname : Name) (post : List SVariant)
  | variantTupleElem (n : Name) (pre : List SVariant) (vname : Name)
      (tpre tpost : List Schema) (post : List SVariant)
  | variantField (n : Name) (pre : List SVariant) (vname : Name)
      (fpre : List SField) (fname : Name) (fpost : List SField) (post : List SVariant)

def Frame.plug : Frame → Schema → Schema
  | .option, s => .option s
  | .seq, s => .seq s
  | .tupleElem pre post, s => .tuple (pre ++ [s] ++ post)
  | .mapKey v, s => .map s v
  | .mapVal k, s => .map k s
  | .structNewtype n, s => .struct n (.newtype s)
  | .structTupleElem n pre post, s => .struct n (.tuple (pre ++ [s] ++ post))
  | .structField n pre fname post, s => .struct n (.struct (pre ++ [.mk fname s] ++ post))
  | .variantNewtype n pre vname post, s => .enum n (pre ++ [.mk vname (.newtype s)] ++ post)
  | .variantTupleElem n pre vname tpre tpost post, s =>
    .enum n (pre ++ [.mk vname (.tuple (tpre ++ [s] ++ tpost))] ++ post)
  | .variantField n pre vname fpre fname fpost post, s =>
    .enum n (pre ++ [.mk vname (.struct (fpre ++ [.mk fname s] ++ fpost))] ++ post)

/-- bytes the stream emits before the hole -/
def Frame.before : Frame → List Byte
  | .option => [Spec.tag .option]
  | .seq => [Spec.tag .seq]
  | .tupleElem pre _ => Spec.tag .tuple :: Spec.streamList pre
  | .mapKey _ => [Spec.tag .map]
  | .mapVal k => Spec.tag .map :: Spec.stream k
  | .structNewtype _ => [Spec.tag .structNewtype]
  | .structTupleElem _ pre _ => Spec.tag .structTuple :: Spec.streamList pre
  | .structField _ pre fname _ => Spec.tag .structStruct :: (Spec.streamFields pre ++ fname)
  | .variantNewtype _ pre vname _ =>
    Spec.tag .enum :: (Spec.streamVariants pre ++ vname ++ [Spec.tag .variantNewtype])
  | .variantTupleElem _ pre vname tpre _ _ =>
    Spec.tag .enum ::
      (Spec.streamVariants pre ++ vname ++ Spec.tag .variantTuple :: Spec.streamList tpre)
  | .variantField _ pre vname fpre fname _ _ =>
    Spec.tag .enum ::
      (Spec.streamVariants pre ++ vname ++
        Spec.tag .variantStruct :: (Spec.streamFields fpre ++ fname))

/-- bytes the stream emits after the hole -/
def Frame.after : Frame → List Byte
  | .option => []
  | .seq => []
  | .tupleElem _ post => Spec.streamList post
  | .mapKey v => Spec.stream v
  | .mapVal _ => []
  | .structNewtype _ => []
  | .structTupleElem _ _ post => Spec.streamList post
  | .structField _ _ _ post => Spec.streamFields post
  | .variantNewtype _ _ _ post => Spec.streamVariants post
  | .variantTupleElem _ _ _ _ tpost post => Spec.streamList tpost ++ Spec.streamVariants post
  | .variantField _ _ _ _ _ fpost post => Spec.streamFields fpost ++ Spec.streamVariants post

theorem Frame.stream_plug (f : Frame) (s : Schema) :
    Spec.stream (f.plug s) = f.before ++ Spec.stream s ++ f.after := by
  cases f
  all_goals simp only [Frame.plug, Frame.before, Frame.after, Spec.stream, Spec.streamStructData,
    Spec.streamVariantData, Spec.streamVariant, Spec.streamField, streamList_append,
    streamFields_append, streamVariants_append, Spec.streamList, Spec.streamFields,
    Spec.streamVariants, List.append_assoc, List.cons_append, List.nil_append, List.append_nil]

abbrev Ctx := List Frame

def plug : Ctx → Schema → Schema
  | [], s => s
  | f :: c, s => f.plug (plug c s)

def Ctx.before : Ctx → List Byte
  | [] => []
  | f :: c => f.before ++ Ctx.before c

def Ctx.after : Ctx → List Byte
  | [] => []
  | f :: c => Ctx.after c ++ f.after

theorem stream_plug (c : Ctx) (s : Schema) :
    Spec.stream (plug c s) = Ctx.before c ++ Spec.stream s ++ Ctx.after c := by
  induction c with
  | nil => simp [plug, Ctx.before, Ctx.after]
  | cons f c ih => simp [plug, Ctx.before, Ctx.after, Frame.stream_plug, ih]

theorem Diff1.plug (c : Ctx) {s s' : Schema} (h : Diff1 (Spec.stream s) (Spec.stream s')) :
    Diff1 (Spec.stream (plug c s)) (Spec.stream (plug c s')) := by
  rw [stream_plug, stream_plug]
  exact h.wrap _ _

mutual
/-- replace every struct / enum TYPE name in the tree by the empty name
(field and variant names are kept) -/
def eraseTypeNames : Schema → Schema
  | .option t => .option (eraseTypeNames t)
  | .seq t => .seq (eraseTypeNames t)
  | .tuple ts => .tuple (eraseTypeNamesList ts)
  | .map k v => .map (eraseTypeNames k) (eraseTypeNames v)
  | .struct _ d => .struct [] (eraseTypeNamesData d)
  | .enum _ vs => .enum [] (eraseTypeNamesVariants vs)
  | s => s
def eraseTypeNamesList : List Schema → List Schema
  | [] => []
  | t :: ts => eraseTypeNames t :: eraseTypeNamesList ts
def eraseTypeNamesData : SData → SData
  | .unit => .unit
  | .newtype t => .newtype (eraseTypeNames t)
  | .tuple ts => .tuple (eraseTypeNamesList ts)
  | .struct fs => .struct (eraseTypeNamesFields fs)
def eraseTypeNamesFields : List SField → List SField
  | [] => []
  | .mk n t :: fs => .mk n (eraseTypeNames t) :: eraseTypeNamesFields fs
def eraseTypeNamesVariants : List SVariant → List SVariant
  | [] => []
  | .mk n d :: vs => .mk n (eraseTypeNamesData d) :: eraseTypeNamesVariants vs
end

theorem eraseTypeNames_stream_all :
    (∀ s, Spec.stream (eraseTypeNames s) = Spec.stream s) ∧
    (∀ vs, Spec.streamVariants (eraseTypeNamesVariants vs) = Spec.streamVariants vs) ∧
    (∀ d, Spec.streamStructData (eraseTypeNamesData d) = Spec.streamStructData d ∧
      Spec.streamVariantData (eraseTypeNamesData d) = Spec.streamVariantData d) ∧
    (∀ fs, Spec.streamFields (eraseTypeNamesFields fs) = Spec.streamFields fs) ∧
    (∀ ts, Spec.streamList (eraseTypeNamesList ts) = Spec.streamList ts) := by
  -- Functional induction along the clauses of `eraseTypeNames` (conjuncts in the order of the
  -- motives of `eraseTypeNames.mutual_induct`).  `*`: the induction hypotheses, and on the
  -- catch-all clause the overlap hypotheses its equation needs.
  apply eraseTypeNames.mutual_induct
  all_goals intros
  all_goals simp only [eraseTypeNames, eraseTypeNamesList, eraseTypeNamesData,
    eraseTypeNamesFields, eraseTypeNamesVariants, Spec.stream, Spec.streamList,
    Spec.streamStructData, Spec.streamVariantData, Spec.streamFields, Spec.streamField,
    Spec.streamVariants, Spec.streamVariant, and_self, *]

theorem type_name_irrelevant_stream (s : Schema) :
    Spec.stream (eraseTypeNames s) = Spec.stream s := eraseTypeNames_stream_all.1 s
theorem streamList_eraseTypeNames (ts : List Schema) :
    Spec.streamList (eraseTypeNamesList ts) = Spec.streamList ts :=
  eraseTypeNames_stream_all.2.2.2.2 ts
theorem streamFields_eraseTypeNames (fs : List SField) :
    Spec.streamFields (eraseTypeNamesFields fs) = Spec.streamFields fs :=
  eraseTypeNames_stream_all.2.2.2.1 fs
theorem streamVariants_eraseTypeNames (vs : List SVariant) :
    Spec.streamVariants (eraseTypeNamesVariants vs) = Spec.streamVariants vs :=
  eraseTypeNames_stream_all.2.1 vs

/-- the 20 `DataModelType` kinds without children -/
inductive LeafKind
  | bool | i8 | u8 | i16 | i32 | i64 | i128 | u16 | u32 | u64 | u128
  | usize | isize | f32 | f64 | char | string | byteArray | unit | schema
  deriving DecidableEq, Repr

def LeafKind.toSchema : LeafKind → Schema
  | .bool => .bool | .i8 => .i8 | .u8 => .u8 | .i16 => .i16 | .i32 => .i32 | .i64 => .i64
  | .i128 => .i128 | .u16 => .u16 | .u32 => .u32 | .u64 => .u64 | .u128 => .u128
  | .usize => .usize | .isize => .isize | .f32 => .f32 | .f64 => .f64 | .char => .char
  | .string => .string | .byteArray => .byteArray | .unit => .unit | .schema => .schema

def LeafKind.kind : LeafKind → Spec.Kind
  | .bool => .bool | .i8 => .i8 | .u8 => .u8 | .i16 => .i16 | .i32 => .i32 | .i64 => .i64
  | .i128 => .i128 | .u16 => .u16 | .u32 => .u32 | .u64 => .u64 | .u128 => .u128
  | .usize => .usize | .isize => .isize | .f32 => .f32 | .f64 => .f64 | .char => .char
  | .string => .string | .byteArray => .byteArray | .unit => .unit | .schema => .schema

def LeafKind.all : List LeafKind :=
  [.bool, .i8, .u8, .i16, .i32, .i64, .i128, .u16, .u32, .u64, .u128,
   .usize, .isize, .f32, .f64, .char, .string, .byteArray, .unit, .schema]

theorem LeafKind.stream_toSchema (l : LeafKind) :
    Spec.stream l.toSchema = [Spec.tag l.kind] := by
  cases l <;> rfl

theorem eq_of_nodup_map {α β} {f : α → β} {l : List α} (h : (l.map f).Nodup) {a b : α}
    (ha : a ∈ l) (hb : b ∈ l) : f a = f b → a = b :=
  have h' := List.pairwise_map.1 h
  List.Pairwise.forall_of_forall_of_flip (R := fun a b => f a = f b → a = b) (fun _ _ _ => rfl)
    (h'.imp fun hne e => absurd e hne) (h'.imp fun hne e => absurd e.symm hne) ha hb

end Postcard
