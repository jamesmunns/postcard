import Postcard.Model.Ser
import Postcard.Model.De
import Postcard.Spec.Permitted
import Postcard.Lemmas.Varint
import Postcard.Lemmas.Codec
import Postcard.Lemmas.Decode
import Postcard.Lemmas.HasTy
/-
  Postcard.Lemmas.RoundTrip — the two halves of the round trip (C01): what the specification
  permits the decoder reads exactly (`permitted_reads`), and the serializer's output is permitted
  (`permitted_enc`).
-/
namespace Postcard

def Reads {α : Type} (f : List Byte → R (α × List Byte)) (v : α) (p : List Byte) : Prop :=
  (∀ r, f (p ++ r) = .ok (v, r)) ∧ ∀ q, q <+: p → q ≠ p → f q = .error .unexpectedEnd

section
variable {α β γ : Type} {f : List Byte → R (α × List Byte)}
  {g : List Byte → R (β × List Byte)} {h : List Byte → R (γ × List Byte)}
  {a : α} {b : β} {c : γ} {p s : List Byte}

theorem Reads.nil (hf : ∀ r, f r = .ok (a, r)) : Reads f a [] :=
  ⟨hf, fun _ hq hne => (prefix_nil_of_ne hq hne).elim⟩

theorem Reads.byte {x : Byte} (hf : ∀ r, f (x :: r) = .ok (a, r))
    (h0 : f [] = .error .unexpectedEnd) : Reads f a [x] :=
  ⟨hf, fun q hq hne => by rw [prefix_singleton hq hne]; exact h0⟩

/-- `h` is `?` on `f`, then a total step.  The model writes each `?` as a `match` of its own, so the
lemma mentions none: the caller shows the two ways `h` follows `f`, by unfolding `h`. -/
theorem Reads.wrap (hf : Reads f a p) (hok : ∀ {bs r}, f bs = .ok (a, r) → h bs = .ok (c, r))
    (herr : ∀ {bs}, f bs = .error .unexpectedEnd → h bs = .error .unexpectedEnd) :
    Reads h c p :=
  ⟨fun r => hok (hf.1 r), fun q hq hne => herr (hf.2 q hq hne)⟩

/-- `h` runs `f`, then `g` on what `f` left.  A strict prefix of `p ++ s` ends inside `p`, where `f`
gives up, or is `p` and a strict prefix of `s`, where `g` does. -/
theorem Reads.seq (hf : Reads f a p) (hg : Reads g b s)
    (hok : ∀ {bs r r'}, f bs = .ok (a, r) → g r = .ok (b, r') → h bs = .ok (c, r'))
    (herr : ∀ {bs}, f bs = .error .unexpectedEnd → h bs = .error .unexpectedEnd)
    (herr' : ∀ {bs r}, f bs = .ok (a, r) → g r = .error .unexpectedEnd →
      h bs = .error .unexpectedEnd) : Reads h c (p ++ s) := by
  refine ⟨fun r => hok (by rw [List.append_assoc]; exact hf.1 (s ++ r)) (hg.1 r),
    fun q hq hne => ?_⟩
  rcases prefix_append_cases hq hne with ⟨h1, h2⟩ | ⟨q2, rfl, h1, h2⟩
  · exact herr (hf.2 q h1 h2)
  · exact herr' (hf.1 q2) (hg.2 q2 h1 h2)

end

theorem PermittedVarint.reads {bits n : Nat} {p : List Byte} (hb : WidthOk bits)
    (hp : PermittedVarint bits n p) : Reads (decVarint bits) n p :=
  ⟨decVarint_permitted hb hp, fun _ => decVarint_strict_prefix hp⟩

theorem takeN_reads (s : List Byte) : Reads (takeN s.length) s s :=
  ⟨takeN_append s, fun _ hq hne => takeN_short (prefix_length_lt hq hne)⟩

theorem Reads.decTuple_cons {t : Ty} {ts : List Ty} {v : Val} {vs : List Val} {p p' : List Byte}
    (h1 : Reads (dec t) v p) (h2 : Reads (decTuple ts) vs p') :
    Reads (decTuple (t :: ts)) (v :: vs) (p ++ p') :=
  h1.seq h2 (fun e1 e2 => by simp only [decTuple, e1, e2])
    (fun e => by simp only [decTuple, e]) (fun e1 e2 => by simp only [decTuple, e1, e2])

theorem Reads.decN_succ {f : List Byte → R (Val × List Byte)} {n : Nat} {v : Val}
    {vs : List Val} {p p' : List Byte} (h1 : Reads f v p) (h2 : Reads (decN f n) vs p') :
    Reads (decN f (n + 1)) (v :: vs) (p ++ p') :=
  h1.seq h2 (fun e1 e2 => by simp only [decN, e1, e2])
    (fun e => by simp only [decN, e]) (fun e1 e2 => by simp only [decN, e1, e2])

theorem Reads.decKV_succ {fk fv : List Byte → R (Val × List Byte)} {n : Nat} {x y : Val}
    {kvs : List Val} {p p' s : List Byte} (h1 : Reads fk x p) (h2 : Reads fv y p')
    (h3 : Reads (decKV fk fv n) kvs s) :
    Reads (decKV fk fv (n + 1)) (x :: y :: kvs) (p ++ p' ++ s) := by
  refine ⟨fun r => ?_, fun q hq hne => ?_⟩
  · simp only [decKV, List.append_assoc, h1.1 (p' ++ (s ++ r)), h2.1 (s ++ r), h3.1 r]
  · simp only [decKV]
    rw [List.append_assoc] at hq hne
    rcases prefix_append_cases hq hne with ⟨h4, h5⟩ | ⟨q2, rfl, h4, h5⟩
    · rw [h1.2 q h4 h5]
    · rw [h1.1 q2]
      dsimp only
      rcases prefix_append_cases h4 h5 with ⟨h6, h7⟩ | ⟨q3, rfl, h6, h7⟩
      · rw [h2.2 q2 h6 h7]
      · rw [h2.1 q3]
        simp only [h3.2 q3 h6 h7]

/-- Rule induction by the recursor of `Permitted` (`induction` does not take a mutual family, and a
`mutual` block of equations over the derivations is slow to check): one step per rule of
`Permitted`, then of `PermittedVariant`, `PermittedTuple`, `PermittedAll`, `PermittedKV`, in the
order of Spec/Permitted.lean. -/
theorem permitted_reads {t : Ty} {v : Val} {p : List Byte} (h : Permitted t v p) :
    Reads (dec t) v p :=
  Permitted.rec (motive_1 := fun t v p _ => Reads (dec t) v p)
    (motive_2 := fun vt idx v p _ => Reads (decVariant [vt] 0 idx) v p)
    (motive_3 := fun ts vs p _ => Reads (decTuple ts) vs p)
    (motive_4 := fun t vs p _ => Reads (decN (dec t) vs.length) vs p)
    (motive_5 := fun k v kvs p _ => Reads (decKV (dec k) (dec v) (kvs.length / 2)) kvs p)
    (.byte (fun _ => rfl) rfl) (.byte (fun _ => rfl) rfl) -- boolFalse, boolTrue
    (fun _ => .byte (fun _ => rfl) rfl) -- u8
    (fun w _ _ hw hp => (hp.reads (IntW.widthOk hw)).wrap -- uN
      (fun e => by rw [dec_uN hw, e]) (fun e => by rw [dec_uN hw, e]))
    (fun _ => .byte (fun _ => rfl) rfl) -- i8
    (fun w _ _ hw hp => (hp.reads (IntW.widthOk hw)).wrap -- iN
      (fun e => by rw [dec_iN hw, e]) (fun e => by rw [dec_iN hw, e]))
    (fun bs hl => (takeN_reads bs).wrap -- f32, f64
      (fun e => by simp only [dec, ← hl, e]) (fun e => by simp only [dec, ← hl, e]))
    (fun bs hl => (takeN_reads bs).wrap
      (fun e => by simp only [dec, ← hl, e]) (fun e => by simp only [dec, ← hl, e]))
    (fun c _ hs hp => -- char
      have hle := Nat.not_lt.2 (utf8Encode_length_le c)
      (hp.reads widthOk64).seq (takeN_reads _)
        (fun e1 e2 => by
          simp only [dec, decChar, e1, hle, if_false, e2, utf8Valid_encode hs, if_true,
            utf8Next_encode_nil hs])
        (fun e => by simp only [dec, decChar, e])
        (fun e1 e2 => by simp only [dec, decChar, e1, hle, if_false, e2]))
    (fun s _ hp hu => (hp.reads widthOk64).seq (takeN_reads s) -- str
      (fun e1 e2 => by simp only [dec, e1, e2, hu, if_true])
      (fun e => by simp only [dec, e]) (fun e1 e2 => by simp only [dec, e1, e2]))
    (fun s _ hp => (hp.reads widthOk64).seq (takeN_reads s) -- bytes
      (fun e1 e2 => by simp only [dec, e1, e2])
      (fun e => by simp only [dec, e]) (fun e1 e2 => by simp only [dec, e1, e2]))
    (fun _ => .byte (fun _ => rfl) rfl) -- none
    (fun _ _ _ _ ih => ⟨fun r => by simp [dec, ih.1 r], fun q hq hne => by -- some
      rcases prefix_append_cases (a := [1]) hq hne with ⟨h1, h2⟩ | ⟨q2, rfl, h1, h2⟩
      · rw [prefix_singleton h1 h2]; rfl
      · simp [dec, ih.2 q2 h1 h2]⟩)
    (.nil fun _ => rfl) (.nil fun _ => rfl) -- unit, unitStruct
    (fun _ _ _ _ ih => -- newtypeStruct
      ih.wrap (fun e => by simp only [dec, e]) (fun e => by simp only [dec, e]))
    (fun _ _ _ _ hp _ ih => (hp.reads widthOk64).seq ih -- seq
      (fun e1 e2 => by simp only [dec, e1, e2])
      (fun e => by simp only [dec, e]) (fun e1 e2 => by simp only [dec, e1, e2]))
    (fun _ _ _ _ ih => -- tuple, tupleStruct, struct
      ih.wrap (fun e => by simp only [dec, e]) (fun e => by simp only [dec, e]))
    (fun _ _ _ _ ih =>
      ih.wrap (fun e => by simp only [dec, e]) (fun e => by simp only [dec, e]))
    (fun _ _ _ _ ih =>
      ih.wrap (fun e => by simp only [dec, e]) (fun e => by simp only [dec, e]))
    (fun _ _ _ _ _ hp _ ih => (hp.reads widthOk64).seq ih -- map
      (fun e1 e2 => by simp only [dec, e1, e2])
      (fun e => by simp only [dec, e]) (fun e1 e2 => by simp only [dec, e1, e2]))
    (fun vts idx vt _ _ _ hp hvt _ ih => (hp.reads widthOk32).seq ih -- enum
      (fun e1 e2 => by simp only [dec, e1, decVariant_some vts idx idx _ vt hvt, e2])
      (fun e => by simp only [dec, e])
      (fun e1 e2 => by simp only [dec, e1, decVariant_some vts idx idx _ vt hvt, e2]))
    (fun _ => .nil fun _ => rfl) -- unit, newtype, tuple, struct variant
    (fun _ _ _ _ _ ih =>
      ih.wrap (fun e => by simp only [decVariant, e]) (fun e => by simp only [decVariant, e]))
    (fun _ _ _ _ _ ih =>
      ih.wrap (fun e => by simp only [decVariant, e]) (fun e => by simp only [decVariant, e]))
    (fun _ _ _ _ _ ih =>
      ih.wrap (fun e => by simp only [decVariant, e]) (fun e => by simp only [decVariant, e]))
    (.nil fun _ => rfl) (fun _ _ _ _ _ _ _ _ ih1 ih2 => ih1.decTuple_cons ih2) -- tuple: nil, cons
    (fun _ => .nil fun _ => rfl) (fun _ _ _ _ _ _ _ ih1 ih2 => ih1.decN_succ ih2) -- all
    (fun _ _ => .nil fun _ => rfl) -- key/value
    (fun _ _ _ _ _ _ _ _ _ _ _ ih1 ih2 ih3 => by
      rw [length_pair_div_two]; exact ih1.decKV_succ ih2 ih3)
    h

theorem permittedTuple_reads : ∀ {ts : List Ty} {vs : List Val} {p : List Byte},
    PermittedTuple ts vs p → Reads (decTuple ts) vs p
  | _, _, _, .nil => .nil fun _ => rfl
  | _, _, _, .cons _ _ _ _ _ _ h1 h2 => (permitted_reads h1).decTuple_cons (permittedTuple_reads h2)
termination_by structural _ vs => vs

theorem permittedAll_reads : ∀ {t : Ty} {vs : List Val} {p : List Byte},
    PermittedAll t vs p → Reads (decN (dec t) vs.length) vs p
  | _, _, _, .nil _ => .nil fun _ => rfl
  | _, _, _, .cons _ _ _ _ _ h1 h2 => (permitted_reads h1).decN_succ (permittedAll_reads h2)
termination_by structural _ vs => vs

theorem permittedKV_reads : ∀ {k v : Ty} {kvs : List Val} {p : List Byte},
    PermittedKV k v kvs p → Reads (decKV (dec k) (dec v) (kvs.length / 2)) kvs p
  | _, _, _, _, .nil _ _ => .nil fun _ => rfl
  | _, _, _, _, .cons _ _ _ _ _ _ _ _ h1 h2 h3 => by
    rw [length_pair_div_two]
    exact (permitted_reads h1).decKV_succ (permitted_reads h2) (permittedKV_reads h3)
termination_by structural _ _ kvs => kvs

theorem permittedVariant_reads {vt : Ty} {idx : Nat} {v : Val} {p : List Byte}
    (h : PermittedVariant vt idx v p) : Reads (decVariant [vt] 0 idx) v p := by
  cases h with
  | unit => exact .nil fun _ => rfl
  | newtype t _ v p h =>
    exact (permitted_reads h).wrap
      (fun e => by simp only [decVariant, e]) (fun e => by simp only [decVariant, e])
  | tuple ts _ vs p h =>
    exact (permittedTuple_reads h).wrap
      (fun e => by simp only [decVariant, e]) (fun e => by simp only [decVariant, e])
  | struct ts _ vs p h =>
    exact (permittedTuple_reads h).wrap
      (fun e => by simp only [decVariant, e]) (fun e => by simp only [decVariant, e])

theorem dec_complete : ∀ {t : Ty} {v : Val} {p : List Byte}, Permitted t v p →
    ∀ r, dec t (p ++ r) = .ok (v, r) :=
  fun h => (permitted_reads h).1

theorem decTuple_complete {ts : List Ty} {vs : List Val} {p : List Byte}
    (h : PermittedTuple ts vs p) : ∀ r, decTuple ts (p ++ r) = .ok (vs, r) :=
  (permittedTuple_reads h).1

theorem decN_complete {t : Ty} {vs : List Val} {p : List Byte} (h : PermittedAll t vs p) :
    ∀ r, decN (dec t) vs.length (p ++ r) = .ok (vs, r) :=
  (permittedAll_reads h).1

theorem decKV_complete {k v : Ty} {kvs : List Val} {p : List Byte} (h : PermittedKV k v kvs p) :
    ∀ r, decKV (dec k) (dec v) (kvs.length / 2) (p ++ r) = .ok (kvs, r) :=
  (permittedKV_reads h).1

theorem permitted_encVarint {bits n : Nat} (hb : WidthOk bits) (h : n < 2 ^ bits) :
    PermittedVarint bits n (encVarint bits n) := by
  rw [encVarint_eq_spec hb h]; exact permitted_canonical hb h

theorem permitted_len {n : Nat} (h : n < 2 ^ 64) : PermittedVarint 64 n (encVarint 64 n) :=
  permitted_encVarint widthOk64 h

theorem enc_uN {w : IntW} (hw : w ≠ .w8) (n : Nat) : enc (.u w n) = encVarint w.bits n := by
  cases w
  · exact absurd rfl hw
  all_goals rfl

theorem enc_iN {w : IntW} (hw : w ≠ .w8) (x : Int) :
    enc (.i w x) = encVarint w.bits (zigzag w.bits x) := by
  cases w
  · exact absurd rfl hw
  all_goals rfl

theorem enc_uN_spec {w : IntW} (hw : w ≠ .w8) {n : Nat} (h : n < 2 ^ w.bits) :
    enc (.u w n) = Spec.varint n := by
  rw [enc_uN hw]; exact encVarint_eq_spec (IntW.widthOk hw) h

theorem enc_iN_spec {w : IntW} (hw : w ≠ .w8) {x : Int} (h : w.inRangeI x = true) :
    enc (.i w x) = Spec.varint (Spec.zigzag x) := by
  have hr := (IntW.inRangeI_iff w x).1 h
  rw [enc_iN hw, encVarint_eq_spec (IntW.widthOk hw) (zigzag_lt (IntW.bits_pos w) hr),
    zigzag_eq_spec (IntW.bits_pos w) hr]

/-- The cases are the clauses of `hasTy`, then of `hasTyKV`, `hasTys`, `hasTyAll` (the order of the
motives), each in the order of Model/DataModel.lean.
A flat key/value list is typed one element at a time but permitted pair by pair: when the next
element is a value, the statement is about the list with its key put back in front. -/
theorem permitted_enc_all :
    (∀ v t, hasTy v t = true → Permitted t v (enc v)) ∧
    (∀ isKey kvs k v, hasTyKV isKey kvs k v = true →
      if isKey then PermittedKV k v kvs (encList kvs)
      else ∀ x, Permitted k x (enc x) → PermittedKV k v (x :: kvs) (enc x ++ encList kvs)) ∧
    (∀ vs ts, hasTys vs ts = true → PermittedTuple ts vs (encList vs)) ∧
    (∀ vs t, hasTyAll vs t = true → PermittedAll t vs (encList vs)) := by
  apply hasTy.mutual_induct_unfolding
    (motive_1 := fun v t b => b = true → Permitted t v (enc v))
    (motive_2 := fun isKey kvs k v b => b = true →
      if isKey then PermittedKV k v kvs (encList kvs)
      else ∀ x, Permitted k x (enc x) → PermittedKV k v (x :: kvs) (enc x ++ encList kvs))
    (motive_3 := fun vs ts b => b = true → PermittedTuple ts vs (encList vs))
    (motive_4 := fun vs t b => b = true → PermittedAll t vs (encList vs))
  case case1 => -- .bool b, .bool
    intro b _
    cases b
    · exact .boolFalse
    · exact .boolTrue
  case case2 => -- .u w n, .u w'
    intro w n w' h
    simp only [Bool.and_eq_true, decide_eq_true_eq] at h
    obtain ⟨rfl, hn⟩ := h
    by_cases hw : w = .w8
    · subst hw
      have := Permitted.u8 (UInt8.ofNat n)
      rwa [UInt8.toNat_ofNat_of_lt' hn] at this
    · rw [enc_uN hw]
      exact .uN w n _ hw (permitted_encVarint (IntW.widthOk hw) hn)
  case case3 => -- .i w x, .i w'
    intro w x w' h
    simp only [Bool.and_eq_true, decide_eq_true_eq] at h
    obtain ⟨rfl, hx⟩ := h
    rw [IntW.inRangeI_iff] at hx
    by_cases hw : w = .w8
    · subst hw
      have := Permitted.i8 (UInt8.ofNat (toBits 8 x))
      rwa [ofBits_toBits8 hx] at this
    · rw [enc_iN hw]
      have := Permitted.iN w (zigzag w.bits x) _ hw
        (permitted_encVarint (IntW.widthOk hw) (zigzag_lt (IntW.bits_pos w) hx))
      rwa [unzigzag_zigzag (IntW.bits_pos w) hx] at this
  case case4 => -- .f32 b, .f32   (`256 ^ 4` evaluates to `2 ^ 32`)
    intro b h
    have := Permitted.f32 (leBytes 4 b) (leBytes_length 4 b)
    rwa [ofLeBytes_leBytes (k := 4) (of_decide_eq_true h)] at this
  case case5 => -- .f64 b, .f64
    intro b h
    have := Permitted.f64 (leBytes 8 b) (leBytes_length 8 b)
    rwa [ofLeBytes_leBytes (k := 8) (of_decide_eq_true h)] at this
  case case6 => -- .char c, .char
    intro c h
    exact .char c _ h (permitted_len (Nat.lt_of_le_of_lt (utf8Encode_length_le c) (by decide)))
  case case7 => -- .str s, .str
    intro s h
    simp only [Bool.and_eq_true, decide_eq_true_eq] at h
    exact .str s _ (permitted_len h.2) h.1
  case case8 => -- .bytes b, .bytes
    intro s h
    exact .bytes s _ (permitted_len (of_decide_eq_true h))
  case case9 => intro t _; exact .none t -- .none, .option _
  case case10 => intro v t ih h; exact .some t v _ (ih h) -- .some v, .option t
  case case11 => intro _; exact .unit
  case case12 => intro _; exact .unitStruct
  case case13 => -- .newtypeStruct v, .newtypeStruct t
    intro v t ih h
    exact .newtypeStruct t v _ (ih h)
  case case14 => -- .seq vs, .seq t
    intro vs t ih h
    simp only [Bool.and_eq_true, decide_eq_true_eq] at h
    exact .seq t vs _ _ (permitted_len h.2) (ih h.1)
  case case15 => intro vs ts ih h; exact .tuple ts vs _ (ih h) -- .tuple vs, .tuple ts
  case case16 => intro vs ts ih h; exact .tupleStruct ts vs _ (ih h)
  case case17 => intro vs ts ih h; exact .struct ts vs _ (ih h)
  case case18 => -- .map kvs, .map k v
    intro kvs k v ih h
    simp only [Bool.and_eq_true, decide_eq_true_eq] at h
    exact .map k v kvs _ _ (permitted_len h.2) (ih h.1)
  case case19 => -- .unitVariant idx, .enum vts
    intro idx vts h
    simp only [Bool.and_eq_true, decide_eq_true_eq] at h
    obtain ⟨hi, h⟩ := h
    split at h
    · next hv =>
      have := Permitted.enum vts idx .unit _ _ [] (permitted_encVarint widthOk32 hi) hv (.unit idx)
      rwa [List.append_nil] at this
    · cases h
  case case20 => -- .newtypeVariant idx v, .enum vts
    intro idx v vts ih h
    simp only [Bool.and_eq_true, decide_eq_true_eq] at h
    obtain ⟨hi, h⟩ := h
    split at h
    · next t hv =>
      exact .enum vts idx _ _ _ _ (permitted_encVarint widthOk32 hi) hv
        (.newtype t idx v _ (ih t h))
    · cases h
  case case21 => -- .tupleVariant idx vs, .enum vts
    intro idx vs vts ih h
    simp only [Bool.and_eq_true, decide_eq_true_eq] at h
    obtain ⟨hi, h⟩ := h
    split at h
    · next ts hv =>
      exact .enum vts idx _ _ _ _ (permitted_encVarint widthOk32 hi) hv
        (.tuple ts idx vs _ (ih ts h))
    · cases h
  case case22 => -- .structVariant idx vs, .enum vts
    intro idx vs vts ih h
    simp only [Bool.and_eq_true, decide_eq_true_eq] at h
    obtain ⟨hi, h⟩ := h
    split at h
    · next ts hv =>
      exact .enum vts idx _ _ _ _ (permitted_encVarint widthOk32 hi) hv
        (.struct ts idx vs _ (ih ts h))
    · cases h
  case case23 => intros; contradiction -- _, _ => false
  case case24 => intro isKey k v h; subst h; exact .nil k v -- isKey, []
  case case25 => -- isKey, x :: xs
    intro isKey x xs k v ih1 ih2 h
    simp only [hasTyKV, Bool.and_eq_true] at h
    cases isKey with
    | true => exact ih2 h.2 x (ih1 h.1)
    | false =>
      intro y hy
      have := PermittedKV.cons k v y x xs _ _ _ hy (ih1 h.1) (ih2 h.2)
      rwa [List.append_assoc] at this
  case case26 => intro _; exact .nil -- [], []
  case case27 => -- v :: vs, t :: ts
    intro v vs t ts ih1 ih2 h
    simp only [hasTys, Bool.and_eq_true] at h
    exact .cons t ts v vs _ _ (ih1 h.1) (ih2 h.2)
  case case28 => intro vs ts h1 h2 h; rw [hasTys_eq_false h1 h2] at h; cases h -- _, _ => false
  case case29 => intro t _; exact .nil t -- [], t
  case case30 => -- v :: vs, t
    intro v vs t ih1 ih2 h
    simp only [hasTyAll, Bool.and_eq_true] at h
    exact .cons t v vs _ _ (ih1 h.1) (ih2 h.2)

theorem permitted_enc : ∀ (v : Val) (t : Ty), hasTy v t = true → Permitted t v (enc v) :=
  permitted_enc_all.1

theorem permittedTuple_encList : ∀ (vs : List Val) (ts : List Ty), hasTys vs ts = true →
    PermittedTuple ts vs (encList vs) :=
  permitted_enc_all.2.2.1

theorem permittedAll_encList : ∀ (vs : List Val) (t : Ty), hasTyAll vs t = true →
    PermittedAll t vs (encList vs) :=
  permitted_enc_all.2.2.2

theorem permittedKV_encList : ∀ (kvs : List Val) (k v : Ty), hasTyKV true kvs k v = true →
    PermittedKV k v kvs (encList kvs) :=
  fun kvs k v h => permitted_enc_all.2.1 true kvs k v h

end Postcard
