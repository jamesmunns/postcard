import Postcard.Model.Varint
import Postcard.Spec.Wire
import Postcard.Lemmas.Bytes
/-
  Postcard.Lemmas.Varint — the varint writer equals the specification, the
  reader inverts it, and the reader accepts exactly the byte strings the
  specification permits (possibly non-canonical, never over-long, never
  over-wide).
-/
namespace Postcard

/-- the four widths the Rust code is instantiated at. -/
def WidthOk (bits : Nat) : Prop := bits = 16 ∨ bits = 32 ∨ bits = 64 ∨ bits = 128

/-- value of a varint byte string: little-endian groups of seven bits. -/
def varintValue : List Byte → Nat
  | [] => 0
  | b :: bs => (b.toNat % 128) + 128 * varintValue bs

/-- `p` is a varint byte string the specification permits for the value `n` at
width `bits` (not necessarily the canonical one). -/
def PermittedVarint (bits n : Nat) (p : List Byte) : Prop :=
  p ≠ [] ∧ p.length ≤ varintMax bits ∧ (∀ b ∈ p.dropLast, 128 ≤ b.toNat) ∧
  (∀ b, p.getLast? = some b → b.toNat < 128) ∧ varintValue p = n ∧ n < 2 ^ bits

theorem widthOk16 : WidthOk 16 := .inl rfl
theorem widthOk32 : WidthOk 32 := .inr (.inl rfl)
theorem widthOk64 : WidthOk 64 := .inr (.inr (.inl rfl))
theorem widthOk128 : WidthOk 128 := .inr (.inr (.inr rfl))

theorem IntW.widthOk {w : IntW} (h : w ≠ .w8) : WidthOk w.bits := by
  cases w
  · exact absurd rfl h
  · exact widthOk16
  · exact widthOk32
  · exact widthOk64
  · exact widthOk128

theorem WidthOk.split {bits : Nat} (hb : WidthOk bits) :
    7 * (varintMax bits - 1) + bits % 7 = bits := by
  rcases hb with rfl | rfl | rfl | rfl <;> decide

theorem WidthOk.max_pos {bits : Nat} (hb : WidthOk bits) : 1 ≤ varintMax bits := by
  rcases hb with rfl | rfl | rfl | rfl <;> decide

theorem WidthOk.le_max {bits : Nat} (hb : WidthOk bits) : bits ≤ 7 * varintMax bits := by
  rcases hb with rfl | rfl | rfl | rfl <;> decide

theorem maxOfLastByte_eq (bits : Nat) : maxOfLastByte bits = 2 ^ (bits % 7) - 1 := by
  simp [maxOfLastByte, Nat.one_shiftLeft]

theorem byte_and7F (b : Byte) : b.toNat &&& 0x7F = b.toNat % 128 :=
  Nat.and_two_pow_sub_one_eq_mod b.toNat 7

theorem byte_and80 (b : Byte) : (b.toNat &&& 0x80 = 0) ↔ b.toNat < 128 :=
  (by decide +kernel : ∀ x : Fin 256, (x.val &&& 0x80 = 0 ↔ x.val < 128)) ⟨b.toNat, b.toNat_lt⟩

theorem nat_or80 (v : Nat) : (v % 256) ||| 0x80 = 128 + v % 128 := by
  have h := (by decide +kernel : ∀ x : Fin 256, x.val ||| 0x80 = 128 + x.val % 128)
    ⟨v % 256, Nat.mod_lt _ (by decide)⟩
  have h2 : v % 256 % 128 = v % 128 := Nat.mod_mod_of_dvd v (by decide)
  simpa [h2] using h

theorem or_shift_eq_add {out i : Nat} (c : Nat) (h : out < 2 ^ i) :
    out ||| (c <<< i) = out + c * 2 ^ i := by
  rw [Nat.or_comm, ← Nat.shiftLeft_add_eq_or_of_lt h, Nat.shiftLeft_eq, Nat.add_comm]

theorem pow7_succ (i : Nat) : 2 ^ (7 * (i + 1)) = 128 * 2 ^ (7 * i) := by
  rw [Nat.mul_succ, Nat.pow_add, Nat.mul_comm]

theorem varintValue_lt (p : List Byte) : varintValue p < 2 ^ (7 * p.length) := by
  induction p with
  | nil => simp [varintValue]
  | cons b t ih =>
    simp only [varintValue, List.length_cons, pow7_succ]
    omega

theorem varintValue_le_ofLeBytes (p : List Byte) : varintValue p ≤ ofLeBytes p := by
  induction p with
  | nil => simp [varintValue, ofLeBytes]
  | cons b p ih => simp only [varintValue, ofLeBytes]; omega

theorem varintValue_append (q s : List Byte) :
    varintValue (q ++ s) = varintValue q + varintValue s * 2 ^ (7 * q.length) := by
  induction q with
  | nil => simp [varintValue]
  | cons b t ih =>
    simp only [List.cons_append, varintValue, ih, List.length_cons, pow7_succ]
    generalize 2 ^ (7 * t.length) = X
    simp [Nat.mul_add, Nat.mul_assoc, Nat.mul_comm, Nat.mul_left_comm, Nat.add_assoc]

theorem varintValue_concat (q : List Byte) (l : Byte) (hl : l.toNat < 128) :
    varintValue (q ++ [l]) = varintValue q + l.toNat * 2 ^ (7 * q.length) := by
  rw [varintValue_append]
  simp [varintValue, Nat.mod_eq_of_lt hl]

def AllCont (q : List Byte) : Prop := ∀ b ∈ q, 128 ≤ b.toNat

theorem decVarintLoop_cons {bits f i out : Nat} {b : Byte} {rest : List Byte}
    (ho : out < 2 ^ (7 * i)) :
    decVarintLoop bits (f + 1) i out (b :: rest) =
      if b.toNat < 128 then
        (if i = varintMax bits - 1 ∧ b.toNat > maxOfLastByte bits then .error .badVarint
         else .ok (out + b.toNat % 128 * 2 ^ (7 * i), rest))
      else decVarintLoop bits f (i + 1) (out + b.toNat % 128 * 2 ^ (7 * i)) rest := by
  simp only [decVarintLoop, byte_and7F, byte_and80, or_shift_eq_add _ ho]

theorem add_group_lt {out i d : Nat} (ho : out < 2 ^ (7 * i)) (hd : d < 128) :
    out + d * 2 ^ (7 * i) < 2 ^ (7 * (i + 1)) := by
  rw [pow7_succ, Nat.add_comm]
  exact (mul_add_lt_iff 128 ho).2 hd

/-- the reader walks through continuation bytes: behind `q` it stands at group
`i + q.length`, with the value of `q` added at group `i` and `q.length` iterations used up. -/
theorem decVarintLoop_skip (bits : Nat) {q : List Byte} (hq : AllCont q) (x : List Byte) :
    ∀ f i out, out < 2 ^ (7 * i) →
      decVarintLoop bits (q.length + f) i out (q ++ x) =
        decVarintLoop bits f (i + q.length) (out + varintValue q * 2 ^ (7 * i)) x := by
  induction q with
  | nil => intro f i out _; simp [varintValue]
  | cons b t ih =>
    intro f i out ho
    rw [List.length_cons, Nat.add_right_comm, List.cons_append,
      decVarintLoop_cons ho, if_neg (Nat.not_lt.2 (hq b List.mem_cons_self)),
      ih (fun c hc => hq c (List.mem_cons_of_mem _ hc)) f (i + 1) _
        (add_group_lt ho (Nat.mod_lt _ (by decide))),
      Nat.add_right_comm i 1, Nat.add_assoc i,
      varintValue, pow7_succ, Nat.add_mul, Nat.add_assoc out, Nat.mul_assoc, Nat.mul_left_comm 128]

theorem decVarint_skip {bits f : Nat} {q : List Byte} (hq : AllCont q) (x : List Byte)
    (hf : varintMax bits = q.length + f) :
    decVarint bits (q ++ x) = decVarintLoop bits f q.length (varintValue q) x := by
  rw [decVarint, hf, decVarintLoop_skip bits hq x f 0 0 (Nat.two_pow_pos _), Nat.zero_add,
    Nat.zero_add, Nat.mul_zero, Nat.pow_zero, Nat.mul_one]

theorem cont_split (bs : List Byte) :
    AllCont bs ∨ ∃ q l r, bs = q ++ l :: r ∧ AllCont q ∧ l.toNat < 128 := by
  induction bs with
  | nil => exact .inl nofun
  | cons b t ih =>
    by_cases hb : b.toNat < 128
    · exact .inr ⟨[], b, t, rfl, nofun, hb⟩
    · rcases ih with h | ⟨q, l, r, rfl, hq, hl⟩
      · exact .inl (List.forall_mem_cons.2 ⟨Nat.not_lt.1 hb, h⟩)
      · exact .inr ⟨b :: q, l, r, rfl, List.forall_mem_cons.2 ⟨Nat.not_lt.1 hb, hq⟩, hl⟩

/-- the last-byte rejection test of the reader. -/
def LastBad (bits : Nat) (q : List Byte) (l : Byte) : Prop :=
  q.length = varintMax bits - 1 ∧ l.toNat > maxOfLastByte bits

instance (bits : Nat) (q : List Byte) (l : Byte) : Decidable (LastBad bits q l) := by
  unfold LastBad; infer_instance

theorem decVarint_terminated {bits : Nat} {q : List Byte} {l : Byte} (r : List Byte)
    (hq : AllCont q) (hl : l.toNat < 128) (hlen : q.length < varintMax bits) :
    decVarint bits (q ++ l :: r) =
      if LastBad bits q l then .error .badVarint else .ok (varintValue (q ++ [l]), r) := by
  obtain ⟨k, hk⟩ := Nat.exists_eq_add_of_lt hlen
  rw [decVarint_skip (f := k + 1) hq _ hk, decVarintLoop_cons (varintValue_lt q),
    if_pos hl, varintValue_concat q l hl, Nat.mod_eq_of_lt hl]
  rfl

theorem decVarint_overlong {bits : Nat} {q : List Byte} (x : List Byte)
    (hq : AllCont q) (hlen : q.length = varintMax bits) :
    decVarint bits (q ++ x) = .error .badVarint := by
  rw [decVarint_skip (f := 0) hq x hlen.symm]
  rfl

theorem decVarint_truncated {bits : Nat} {q : List Byte}
    (hq : AllCont q) (hlen : q.length < varintMax bits) :
    decVarint bits q = .error .unexpectedEnd := by
  obtain ⟨k, hk⟩ := Nat.exists_eq_add_of_lt hlen
  have := decVarint_skip (f := k + 1) hq [] hk
  rwa [List.append_nil] at this

/-- Every outcome of the varint reader, by the split of the input at its first terminator, one row
per outcome: the input ends first, the permitted number of bytes all carry the continuation flag, or
a terminator comes in time and the last-byte test decides. -/
inductive VarintOutcome (bits : Nat) : List Byte → R (Nat × List Byte) → Prop
  | truncated {bs} : AllCont bs → bs.length < varintMax bits →
      VarintOutcome bits bs (.error .unexpectedEnd)
  | overlong {q x} : AllCont q → q.length = varintMax bits →
      VarintOutcome bits (q ++ x) (.error .badVarint)
  | overwide {q l r} : AllCont q → l.toNat < 128 → q.length < varintMax bits → LastBad bits q l →
      VarintOutcome bits (q ++ l :: r) (.error .badVarint)
  | ok {q l r} : AllCont q → l.toNat < 128 → q.length < varintMax bits → ¬ LastBad bits q l →
      VarintOutcome bits (q ++ l :: r) (.ok (varintValue (q ++ [l]), r))

theorem decVarint_outcome {bits : Nat} {bs : List Byte} {o : R (Nat × List Byte)}
    (h : decVarint bits bs = o) : VarintOutcome bits bs o := by
  subst h
  have overlong : ∀ q x : List Byte, bs = q ++ x → AllCont q → varintMax bits ≤ q.length →
      VarintOutcome bits bs (decVarint bits bs) := fun q x hbs hq hlen => by
    -- only the first `varintMax bits` bytes of `q` are read
    have hq' : AllCont (q.take (varintMax bits)) := fun b hb => hq b (List.mem_of_mem_take hb)
    have hlen' := List.length_take_of_le hlen
    rw [hbs, ← List.take_append_drop (varintMax bits) q, List.append_assoc,
      decVarint_overlong _ hq' hlen']
    exact .overlong hq' hlen'
  rcases cont_split bs with h | ⟨q, l, r, rfl, hq, hl⟩
  · by_cases hlen : bs.length < varintMax bits
    · exact decVarint_truncated h hlen ▸ .truncated h hlen
    · exact overlong bs [] (List.append_nil bs).symm h (Nat.le_of_not_lt hlen)
  · by_cases hlen : q.length < varintMax bits
    · rw [decVarint_terminated r hq hl hlen]
      split
      · exact .overwide hq hl hlen ‹_›
      · exact .ok hq hl hlen ‹_›
    · exact overlong q (l :: r) rfl hq (Nat.le_of_not_lt hlen)

theorem varintValue_lt_iff_not_lastBad {bits : Nat} (hb : WidthOk bits) {q : List Byte} {l : Byte}
    (hl : l.toNat < 128) (hlen : q.length < varintMax bits) :
    varintValue (q ++ [l]) < 2 ^ bits ↔ ¬ LastBad bits q l := by
  rw [varintValue_concat q l hl, LastBad, maxOfLastByte_eq]
  have hv := varintValue_lt q
  have hK : 0 < 2 ^ (bits % 7) := Nat.two_pow_pos _
  have hsplit := hb.split
  by_cases hlast : q.length = varintMax bits - 1
  · -- the last permitted byte holds the top `bits % 7` bits
    rw [show 2 ^ bits = 2 ^ (bits % 7) * 2 ^ (7 * q.length) by
      rw [hlast, ← Nat.pow_add, Nat.add_comm, hsplit], Nat.add_comm, mul_add_lt_iff _ hv]
    omega
  · -- an earlier byte: seven more bits always fit
    have h2 : 2 ^ (7 * (q.length + 1)) ≤ 2 ^ bits := Nat.pow_le_pow_right (by decide) (by omega)
    exact ⟨fun _ h => hlast h.1, fun _ => Nat.lt_of_lt_of_le (add_group_lt hv hl) h2⟩

theorem permittedVarint_iff {bits n : Nat} {p : List Byte} :
    PermittedVarint bits n p ↔
      ∃ q l, p = q ++ [l] ∧ AllCont q ∧ l.toNat < 128 ∧ q.length < varintMax bits ∧
        varintValue (q ++ [l]) = n ∧ n < 2 ^ bits := by
  constructor
  · rintro ⟨hne, hlen, hc, ht, hv, hn⟩
    have hp := List.dropLast_concat_getLast hne
    rw [← hp, List.length_append, List.length_singleton] at hlen
    exact ⟨p.dropLast, p.getLast hne, hp.symm, hc,
      ht _ (List.getLast?_eq_some_getLast hne), hlen, hp.symm ▸ hv, hn⟩
  · rintro ⟨q, l, rfl, hq, hl, hlen, hv, hn⟩
    refine ⟨List.concat_ne_nil l q, ?_, ?_, fun b hb => ?_, hv, hn⟩
    · rw [List.length_append, List.length_singleton]; exact hlen
    · rwa [List.dropLast_concat]
    · cases List.getLast?_concat.symm.trans hb
      exact hl

theorem PermittedVarint.length_pos {bits n : Nat} {p : List Byte} (h : PermittedVarint bits n p) :
    1 ≤ p.length :=
  List.length_pos_iff.2 h.1

theorem PermittedVarint.value_lt {bits n : Nat} {p : List Byte} (h : PermittedVarint bits n p) :
    n < 2 ^ bits :=
  h.2.2.2.2.2

theorem PermittedVarint.append_pos {bits n : Nat} {p : List Byte} (h : PermittedVarint bits n p)
    (s : List Byte) : 1 ≤ (p ++ s).length :=
  List.length_append ▸ Nat.le_add_right_of_le h.length_pos

theorem decVarint_ok_iff {bits n : Nat} {bs r : List Byte} (hb : WidthOk bits) :
    decVarint bits bs = .ok (n, r) ↔ ∃ p, bs = p ++ r ∧ PermittedVarint bits n p := by
  constructor
  · intro h
    cases decVarint_outcome h with
    | @ok q l r hq hl hlen hbad =>
      exact ⟨q ++ [l], List.append_cons q l r, permittedVarint_iff.2
        ⟨q, l, rfl, hq, hl, hlen, rfl, (varintValue_lt_iff_not_lastBad hb hl hlen).2 hbad⟩⟩
  · rintro ⟨p, rfl, hp⟩
    obtain ⟨q, l, rfl, hq, hl, hlen, rfl, hn⟩ := permittedVarint_iff.1 hp
    rw [← List.append_cons, decVarint_terminated r hq hl hlen,
      if_neg ((varintValue_lt_iff_not_lastBad hb hl hlen).1 hn)]

theorem decVarint_lt {bits n : Nat} {bs r : List Byte} (hb : WidthOk bits)
    (h : decVarint bits bs = .ok (n, r)) : n < 2 ^ bits := by
  obtain ⟨p, _, hp⟩ := (decVarint_ok_iff hb).1 h
  exact hp.value_lt

theorem decVarint_consumed {bits n : Nat} {bs r : List Byte}
    (h : decVarint bits bs = .ok (n, r)) :
    ∃ p, bs = p ++ r ∧ 0 < p.length ∧ p.length ≤ varintMax bits := by
  cases decVarint_outcome h with
  | @ok q l r _ _ hlen _ => exact ⟨q ++ [l], List.append_cons q l r, by simp, by simp; omega⟩

theorem decVarint_pos {bits n : Nat} {bs r : List Byte} (h : decVarint bits bs = .ok (n, r)) :
    r.length < bs.length := by
  obtain ⟨p, rfl, hp, _⟩ := decVarint_consumed h
  rw [List.length_append]
  omega

theorem decVarint_permitted {bits n : Nat} {p : List Byte} (hb : WidthOk bits)
    (hp : PermittedVarint bits n p) (r : List Byte) : decVarint bits (p ++ r) = .ok (n, r) :=
  (decVarint_ok_iff hb).2 ⟨p, rfl, hp⟩

/-- a strict prefix of a permitted varint is all continuation bytes. -/
theorem decVarint_strict_prefix {bits n : Nat} {p : List Byte}
    (hp : PermittedVarint bits n p) {q : List Byte} (hq : q <+: p) (hne : q ≠ p) :
    decVarint bits q = .error .unexpectedEnd := by
  obtain ⟨q', l, rfl, hc, _, hlen, _⟩ := permittedVarint_iff.1 hp
  rcases List.prefix_concat_iff.1 hq with h1 | ⟨t, rfl⟩
  · exact absurd h1 hne
  · exact decVarint_truncated (fun b hb => hc b (List.mem_append_left t hb))
      (Nat.lt_of_le_of_lt (by rw [List.length_append]; exact Nat.le_add_right _ _) hlen)

theorem decVarint_error_kinds {bits : Nat} {bs : List Byte} {e : Err}
    (h : decVarint bits bs = .error e) : e = .unexpectedEnd ∨ e = .badVarint := by
  cases decVarint_outcome h
  · exact .inl rfl
  all_goals exact .inr rfl

theorem decVarint_np (bits : Nat) (bs : List Byte) : decVarint bits bs ≠ .error .panic :=
  fun h => by rcases decVarint_error_kinds h with h | h <;> cases h

theorem decVarint_unexpectedEnd_iff {bits : Nat} {bs : List Byte} :
    decVarint bits bs = .error .unexpectedEnd ↔
      (∀ b ∈ bs, 128 ≤ b.toNat) ∧ bs.length < varintMax bits := by
  refine ⟨fun h => ?_, fun ⟨hc, hl⟩ => decVarint_truncated hc hl⟩
  cases decVarint_outcome h with
  | truncated hc hl => exact ⟨hc, hl⟩

/-- `badVarint` ⇔ over-long (the maximum number of bytes all carry the
continuation flag) or over-range (terminated in time but the value does not fit
the width). -/
theorem decVarint_badVarint_iff {bits : Nat} (hb : WidthOk bits) (bs : List Byte) :
    decVarint bits bs = .error .badVarint ↔
      (∃ q x, bs = q ++ x ∧ AllCont q ∧ q.length = varintMax bits) ∨
      (∃ q l r, bs = q ++ l :: r ∧ AllCont q ∧ l.toNat < 128 ∧ q.length < varintMax bits ∧
        2 ^ bits ≤ varintValue (q ++ [l])) := by
  constructor
  · intro h
    cases decVarint_outcome h with
    | overlong hq hlen => exact .inl ⟨_, _, rfl, hq, hlen⟩
    | overwide hq hl hlen hbad =>
      exact .inr ⟨_, _, _, rfl, hq, hl, hlen,
        Nat.le_of_not_lt fun hlt => (varintValue_lt_iff_not_lastBad hb hl hlen).1 hlt hbad⟩
  · rintro (⟨q, x, rfl, hq, hlen⟩ | ⟨q, l, r, rfl, hq, hl, hlen, hv⟩)
    · exact decVarint_overlong x hq hlen
    · rw [decVarint_terminated r hq hl hlen, if_pos]
      exact Decidable.byContradiction fun hnb =>
        absurd ((varintValue_lt_iff_not_lastBad hb hl hlen).2 hnb) (Nat.not_lt.2 hv)

theorem encVarintLoop_eq_spec (f v : Nat) (hv : v < 2 ^ (7 * (f + 1))) :
    encVarintLoop (f + 1) v = Spec.varint v := by
  induction f generalizing v with
  | zero =>
    have hv : v < 128 := hv
    rw [Spec.varint, encVarintLoop, if_pos hv, if_pos hv,
      Nat.mod_eq_of_lt (Nat.lt_trans hv (by decide))]
  | succ f ih =>
    rw [Spec.varint, encVarintLoop]
    by_cases h : v < 128
    · rw [if_pos h, if_pos h, Nat.mod_eq_of_lt (Nat.lt_trans h (by decide))]
    · rw [pow7_succ] at hv
      rw [if_neg h, if_neg h, nat_or80, Nat.shiftRight_eq_div_pow,
        ih (v / 2 ^ 7) ((Nat.div_lt_iff_lt_mul (by decide)).2 (by omega))]

theorem encVarintLoop_length_le (f v : Nat) : (encVarintLoop f v).length ≤ f := by
  induction f generalizing v with
  | zero => simp [encVarintLoop]
  | succ f ih =>
    rw [encVarintLoop]
    split
    · exact Nat.succ_le_succ (Nat.zero_le f)
    · exact Nat.succ_le_succ (ih (v >>> 7))

theorem spec_varint_length_le_of_lt {k n : Nat} (h : n < 2 ^ (7 * (k + 1))) :
    (Spec.varint n).length ≤ k + 1 := by
  rw [← encVarintLoop_eq_spec k n h]
  exact encVarintLoop_length_le _ _

theorem encVarint_eq_spec {bits n : Nat} (hb : WidthOk bits) (h : n < 2 ^ bits) :
    encVarint bits n = Spec.varint n := by
  obtain ⟨f, hf⟩ := Nat.exists_eq_add_one_of_ne_zero (Nat.ne_of_gt hb.max_pos)
  rw [encVarint, hf]
  exact encVarintLoop_eq_spec f n
    (Nat.lt_of_lt_of_le h (Nat.pow_le_pow_right (by decide) (hf ▸ hb.le_max)))

theorem encVarint_64_32 {n : Nat} (h : n < 2 ^ 32) : encVarint 64 n = encVarint 32 n := by
  rw [encVarint_eq_spec widthOk64 (Nat.lt_of_lt_of_le h (by decide)), encVarint_eq_spec widthOk32 h]

theorem spec_varint_length_le {bits n : Nat} (hb : WidthOk bits) (h : n < 2 ^ bits) :
    (Spec.varint n).length ≤ varintMax bits := by
  rw [← encVarint_eq_spec hb h]
  exact encVarintLoop_length_le _ _

theorem spec_varint_length_pos (n : Nat) : 0 < (Spec.varint n).length := by
  rw [Spec.varint]; split <;> simp

theorem spec_varint_shape (n : Nat) :
    ∃ q l, Spec.varint n = q ++ [l] ∧ AllCont q ∧ l.toNat < 128 ∧
      varintValue (q ++ [l]) = n := by
  induction n using Spec.varint.induct with
  | case1 n h =>
    have e : (UInt8.ofNat n).toNat = n := UInt8.toNat_ofNat_of_lt' (Nat.lt_trans h (by decide))
    refine ⟨[], UInt8.ofNat n, ?_, nofun, Nat.lt_of_le_of_lt (Nat.le_of_eq e) h, ?_⟩
    · rw [Spec.varint, if_pos h]; rfl
    · rw [List.nil_append, varintValue, varintValue, e, Nat.mod_eq_of_lt h]; rfl
  | case2 n h ih =>
    obtain ⟨q, l, hs, hq, hl, hv⟩ := ih
    have e := toNat_ofNat_add (k := 128) 128 (Nat.mod_lt n (by decide))
    refine ⟨UInt8.ofNat (128 + n % 128) :: q, l, ?_, List.forall_mem_cons.2
      ⟨Nat.le_trans (Nat.le_add_right 128 _) (Nat.le_of_eq e.symm), hq⟩, hl, ?_⟩
    · rw [Spec.varint, if_neg h, hs]; rfl
    · rw [List.cons_append, varintValue, hv, e, Nat.add_mod_left, Nat.mod_mod, Nat.mod_add_div]

theorem permitted_canonical {bits n : Nat} (hb : WidthOk bits) (h : n < 2 ^ bits) :
    PermittedVarint bits n (Spec.varint n) := by
  obtain ⟨q, l, hs, hq, hl, hv⟩ := spec_varint_shape n
  have hlen := spec_varint_length_le hb h
  rw [hs, List.length_append] at hlen
  rw [hs]
  exact permittedVarint_iff.2 ⟨q, l, rfl, hq, hl, hlen, hv, h⟩

theorem varint_minimal {bits n : Nat} {p : List Byte} (h : PermittedVarint bits n p) :
    (Spec.varint n).length ≤ p.length := by
  obtain ⟨hne, _, _, _, hv, _⟩ := h
  have hlt := varintValue_lt p
  rw [hv] at hlt
  cases p with
  | nil => exact absurd rfl hne
  | cons b t => exact spec_varint_length_le_of_lt hlt

theorem decVarint_encVarint {bits n : Nat} (hb : WidthOk bits) (h : n < 2 ^ bits)
    (rest : List Byte) :
    decVarint bits (encVarint bits n ++ rest) = .ok (n, rest) := by
  rw [encVarint_eq_spec hb h]
  exact decVarint_permitted hb (permitted_canonical hb h) rest

end Postcard
