import Postcard.Props.C17
import Postcard.Model.DynCost
/-
  C18, allocation: what postcard-dyn's `deserialize` allocates is at most a constant multiple of the
  input length, on ALL schema kinds (`Enum`, `Map`, `Schema` included), under the only necessary
  restriction that every `Seq` element type has positive minimum encoded width (`minWidth`,
  `minWidthPos`, `allocW'`: Model/DynCost.lean).  `ABG` is what every run of the decoder satisfies:
  cost bounded by the bytes CONSUMED, so that two runs compose (`ABG_then`).
-/

namespace Postcard.Dyn

def ABG {α : Type} (res : DR (α × List Byte)) (cost w mw len : Nat) : Prop :=
  match res with
  | .ok (_, r) => r.length + mw ≤ len ∧ cost ≤ w * (len - r.length + 1)
  | .error _ => cost ≤ w * (len + 1)

theorem ABG_ok {α : Type} {a : α} {r : List Byte} {cost w mw len : Nat} (h1 : r.length + mw ≤ len)
    (h2 : cost ≤ w * (len - r.length + 1)) : ABG (.ok (a, r)) cost w mw len := ⟨h1, h2⟩

theorem ABG_err {α : Type} {e : DynErr} {cost w mw len : Nat} (h : cost ≤ w * (len + 1)) :
    ABG (.error e : DR (α × List Byte)) cost w mw len := h

theorem ABG_le {α : Type} {res : DR (α × List Byte)} {cost w mw len : Nat}
    (h : ABG res cost w mw len) : cost ≤ w * (len + 1) := by
  unfold ABG at h
  split at h
  · exact Nat.le_trans h.2 (Nat.mul_le_mul_left _ (by omega))
  · exact h

theorem ABG_mono {α : Type} {res : DR (α × List Byte)} {cost w mw len w' mw' len' : Nat}
    (h : ABG res cost w mw len) (hw : w ≤ w') (hl : len ≤ len') (hm : mw' + len ≤ len' + mw) :
    ABG res cost w' mw' len' := by
  unfold ABG at h ⊢
  split
  · simp only at h
    exact ⟨by omega, Nat.le_trans h.2 (Nat.mul_le_mul hw (by omega))⟩
  · simp only at h
    exact Nat.le_trans h (Nat.mul_le_mul hw (by omega))

/-- one-`Value` kinds: `allocDyn = allocLeaf (dynDe …)` holds by unfolding (`rfl` at a constructor),
weight 1. -/
theorem ABG_leaf {fo : FloatOps} {s : Schema} {bs : List Byte} {mw : Nat}
    (ha : allocDyn fo s bs = allocLeaf (dynDe fo s bs))
    (hmw : ∀ j r, dynDe fo s bs = .ok (j, r) → r.length + mw ≤ bs.length) :
    ABG (dynDe fo s bs) (allocDyn fo s bs) 1 mw bs.length := by
  rw [ha]
  cases hd : dynDe fo s bs with
  | error e => exact Nat.zero_le _
  | ok p => exact ABG_ok (hmw p.1 p.2 hd) (by simp [allocLeaf])

theorem le_mul_mono {a w w' x x' : Nat} (h : a ≤ w * x) (hw : w ≤ w') (hx : x ≤ x') :
    a ≤ w' * x' :=
  Nat.le_trans h (Nat.mul_le_mul hw hx)

theorem wrap_step {a w k x M : Nat} (ha : a ≤ w * x) (hx : 1 ≤ x) (hM : k + w ≤ M) :
    a + k ≤ M * x := by
  have h1 : k ≤ k * x := Nat.le_mul_of_pos_right _ hx
  have h2 : (k + w) * x ≤ M * x := Nat.mul_le_mul_right _ hM
  rw [Nat.add_mul] at h2
  omega

/-- a payload wrapped into a node (`{name: payload}` of an enum variant, the array of a tuple, …):
`k` more if the payload decoded (`y` is the node's decode, `x` that of its payload). -/
theorem ABG_payload {α β : Type} {x : DR (α × List Byte)} {y : DR (β × List Byte)}
    {cost extra k w mw mw' W len : Nat} (h : ABG x cost w mw len) (hW : k + w ≤ W) (hm : mw' ≤ mw)
    (he : ∀ e, x = .error e → y = .error e ∧ extra = 0)
    (ho : ∀ a r, x = .ok (a, r) → (∃ b, y = .ok (b, r)) ∧ extra = k) :
    ABG y (cost + extra) W mw' len := by
  cases hx : x with
  | error e =>
    obtain ⟨hy, rfl⟩ := he e hx
    rw [hy]; rw [hx] at h; simp only [ABG] at h ⊢
    exact le_mul_mono h (by omega) (Nat.le_refl _)
  | ok q =>
    obtain ⟨a, r⟩ := q
    obtain ⟨⟨b, hb⟩, rfl⟩ := ho a r hx
    rw [hb]; rw [hx] at h; simp only [ABG] at h ⊢
    exact ⟨by omega, wrap_step h.2 (by omega) hW⟩

/-- a second decoder `y` run on the `r` a first one left, `k` bytes into the input.  `hW` is the
arithmetic of the loop at hand: the first consumed `c` at cost `a`, the second consumes some `x`
at cost `b`.  Both consumed amounts enter as variables, so no subtraction is left for `hW`. -/
theorem ABG_then {α β : Type} {v : α} {r : List Byte} {y : DR (β × List Byte)}
    {a b w1 w2 m1 m2 m cost W k len0 len : Nat} (h1 : ABG (.ok (v, r)) a w1 m1 len0)
    (h2 : ABG y b w2 m2 r.length) (hk : len = len0 + k) (hm : m ≤ m1 + m2)
    (hW : ∀ c x, m1 ≤ c → a ≤ w1 * (c + 1) → b ≤ w2 * (x + 1) → cost ≤ W * (c + x + k + 1)) :
    ABG y cost W m len := by
  obtain ⟨hl, ha⟩ := h1
  obtain ⟨c, rfl⟩ := Nat.exists_eq_add_of_le (Nat.le_of_add_right_le hl)
  rw [Nat.add_sub_cancel_left] at ha
  subst hk
  unfold ABG at h2 ⊢
  split
  · next r' =>
    simp only at h2
    obtain ⟨x, hx⟩ := Nat.exists_eq_add_of_le (Nat.le_of_add_right_le h2.1)
    rw [hx, Nat.add_sub_cancel_left] at h2
    rw [hx, Nat.add_assoc, Nat.add_assoc, Nat.add_sub_cancel_left, ← Nat.add_assoc x c k,
      Nat.add_comm x c]
    exact ⟨by omega, hW c x (by omega) ha h2.2⟩
  · rw [Nat.add_comm r.length c]
    exact hW c _ (by omega) ha h2

theorem dynTakeVarint_len {bits n : Nat} {bs r : List Byte}
    (h : dynTakeVarint bits bs = .ok (n, r)) : r.length + 1 ≤ bs.length := by
  rw [dynTakeVarint_eq] at h
  cases hd : decVarint bits bs with
  | error e => rw [hd] at h; cases e <;> cases h
  | ok p =>
    rw [hd] at h
    cases h
    have := decVarint_pos hd
    omega

/-- the length prefix of `String`, `Char`, `ByteArray` and of a `Map` key is at least one byte. -/
theorem lenPrefixed_len {bs rest u r : List Byte} {n : Nat}
    (hv : dynTakeVarint 64 bs = .ok (n, rest)) (hn : dynTakeN n rest = .ok (u, r)) :
    r.length + 1 + u.length ≤ bs.length := by
  have h1 := dynTakeVarint_len hv
  have h2 := dynTakeN_len hn
  omega

/-- `leaf_len lem`: a successful decode under a leaf kind consumes at least `minWidth`; every such
arm of `dynDe` returns the remainder of its one reader, and `lem` says how much that reader took. -/
syntax "leaf_len " term : tactic
macro_rules
  | `(tactic| leaf_len $len) => `(tactic|
    (intro j r h
     unfold dynDe at h
     split at h
     · cases h
     · rename_i hx
       have hl1 := $len hx
       try dsimp only at h
       (repeat' split at h) <;> (cases h) <;> (simp [minWidth] <;> omega)))

end Postcard.Dyn

namespace Postcard.DynA
open Postcard.Dyn

theorem allocW'_pos : ∀ s : Schema, 1 ≤ allocW' s
  | .option t | .struct _ (.newtype t) => allocW'_pos t
  | .seq _ | .tuple _ | .map _ _ | .enum _ _ | .struct _ (.tuple _) | .struct _ (.struct _) =>
    Nat.le_add_left 1 _
  | .schema => Nat.le_add_left 1 13
  | .struct _ .unit | .bool | .i8 | .u8 | .i16 | .i32 | .i64 | .i128 | .u16 | .u32 | .u64 | .u128
  | .usize | .isize | .f32 | .f64 | .char | .string | .byteArray | .unit => Nat.le_refl 1

/-- `String` and `Char`: one `Value` and a copy of the string's bytes, all of them consumed. -/
theorem ab_str (fo : FloatOps) (s : Schema) (bs : List Byte)
    (hd : ∀ j r, dynDe fo s bs = .ok (j, r) →
      ∃ u, j = .str u ∧ r.length + 1 + u.length ≤ bs.length)
    (ha : allocDyn fo s bs =
      match dynDe fo s bs with | .ok (.str u, _) => 1 + u.length | _ => 0) :
    ABG (dynDe fo s bs) (allocDyn fo s bs) 1 1 bs.length := by
  rw [ha]
  cases h : dynDe fo s bs with
  | error e => exact Nat.zero_le _
  | ok p =>
    obtain ⟨j, r⟩ := p
    obtain ⟨u, rfl, hl⟩ := hd j r h
    exact ABG_ok (by omega) (by simp; omega)

theorem de_string_len (fo : FloatOps) (bs : List Byte) (j : Json) (r : List Byte)
    (h : dynDe fo .string bs = .ok (j, r)) :
    ∃ u, j = .str u ∧ r.length + 1 + u.length ≤ bs.length := by
  unfold dynDe at h
  split at h
  · cases h
  · rename_i n rest hv
    split at h
    · cases h
    · rename_i u rest' hn
      split at h
      · cases h; exact ⟨u, rfl, lenPrefixed_len hv hn⟩
      · cases h

theorem de_char_len (fo : FloatOps) (bs : List Byte) (j : Json) (r : List Byte)
    (h : dynDe fo .char bs = .ok (j, r)) :
    ∃ u, j = .str u ∧ r.length + 1 + u.length ≤ bs.length := by
  unfold dynDe at h
  split at h
  · cases h
  · rename_i n rest hv
    split at h
    · cases h
    · rename_i u rest' hn
      split at h
      · split at h
        · cases h; exact ⟨u, rfl, lenPrefixed_len hv hn⟩
        · cases h
      · cases h

theorem ab_byteArray (fo : FloatOps) (bs : List Byte) :
    ABG (dynDe fo .byteArray bs) (allocDyn fo .byteArray bs) 1 1 bs.length := by
  unfold allocDyn
  cases h : dynDe fo .byteArray bs with
  | error e => exact Nat.zero_le _
  | ok p =>
    obtain ⟨j, r⟩ := p
    unfold dynDe at h
    split at h
    · cases h
    · rename_i n rest hv
      split at h
      · cases h
      · rename_i u rest' hn
        have := lenPrefixed_len hv hn
        cases h
        exact ABG_ok (by omega) (by simp; omega)

/-- the `Value` tree of an embedded schema costs at most 14 per byte (`decOwnedBytes_cost`). -/
theorem ab_schema (fo : FloatOps) (bs : List Byte) :
    ABG (dynDe fo .schema bs) (allocDyn fo .schema bs) 14 1 bs.length := by
  unfold allocDyn
  cases hd : dynDe fo .schema bs with
  | error e => exact Nat.zero_le _
  | ok p =>
    obtain ⟨j, r⟩ := p
    unfold dynDe at hd
    split at hd
    · cases hd
    · cases hd
    · next s rest hs =>
      cases hd
      have := decOwnedBytes_cost hs
      exact ABG_ok (by omega) (by simp only; omega)

theorem ab_option (fo : FloatOps) (t : Schema) (w : Nat) (hw : 1 ≤ w)
    (ih : ∀ bs, ABG (dynDe fo t bs) (allocDyn fo t bs) w (minWidth t) bs.length) :
    ∀ bs, ABG (dynDe fo (.option t) bs) (allocDyn fo (.option t) bs) w 1 bs.length
  | [] => Nat.zero_le _
  | b :: rest => by
    unfold allocDyn dynDe; simp only [dynTakeOne]
    by_cases hb0 : b = 0
    · simp only [hb0, if_true, ABG]
      exact ⟨by simp, Nat.le_trans hw (Nat.le_mul_of_pos_right _ (by omega))⟩
    · by_cases hb1 : b = 1
      · simp only [hb1, if_true]
        exact ABG_mono (ih rest) (Nat.le_refl _) (Nat.le_succ _)
          (by simp only [List.length_cons]; omega)
      · simp [hb0, hb1, ABG]

/-- the `Seq` loop: an element consumed `c ≥ 1` bytes, so its `w * (c + 1)` is at most `2 * w * c`:
hence the doubled weight. -/
theorem seq_step {a b w c y : Nat} (hc : 1 ≤ c) (ha : a ≤ w * (c + 1))
    (hb : b ≤ 2 * w * (y + 1)) : a + b ≤ 2 * w * (c + y + 1) := by
  have : w * (c + 1) ≤ 2 * w * c := by
    have : w ≤ w * c := Nat.le_mul_of_pos_right _ hc
    rw [Nat.mul_add, Nat.mul_one, Nat.mul_assoc, Nat.two_mul]
    omega
  rw [Nat.add_assoc, Nat.mul_add]
  omega

theorem ab_deN (fo : FloatOps) (t : Schema) (w : Nat) (hpos : 0 < minWidth t)
    (ih : ∀ bs, ABG (dynDe fo t bs) (allocDyn fo t bs) w (minWidth t) bs.length) :
    ∀ (n : Nat) (bs : List Byte),
      ABG (deN (dynDe fo t) n bs) (allocN (allocDyn fo t) (dynDe fo t) n bs) (2 * w) 0 bs.length
  | 0, bs => ⟨Nat.le_refl _, Nat.zero_le _⟩
  | n + 1, bs => by
    have h1 := ih bs
    simp only [deN, allocN]
    cases hd : dynDe fo t bs with
    | error e => exact ABG_err (le_mul_mono (ABG_le (hd ▸ h1)) (by omega) (Nat.le_refl _))
    | ok p =>
      obtain ⟨v, r⟩ := p
      have h2 := ABG_then (k := 0) (hd ▸ h1) (ab_deN fo t w hpos ih n r) rfl (Nat.zero_le _)
        fun _ _ hc => seq_step (Nat.le_trans hpos hc)
      dsimp only
      -- `ABG` does not look at the value, and the goal's run is `deN … n r` with `v` consed on
      revert h2
      cases deN (dynDe fo t) n r <;> exact id

theorem ab_seq (fo : FloatOps) (t : Schema) (w : Nat) (hpos : 0 < minWidth t)
    (ih : ∀ bs, ABG (dynDe fo t bs) (allocDyn fo t bs) w (minWidth t) bs.length)
    (bs : List Byte) :
    ABG (dynDe fo (.seq t) bs) (allocDyn fo (.seq t) bs) (2 * w + 1) 1 bs.length := by
  unfold allocDyn
  simp only [dynDe]
  cases hv : dynTakeVarint 64 bs with
  | error e => exact Nat.zero_le _
  | ok p =>
    obtain ⟨n, rest⟩ := p
    have hl := dynTakeVarint_len hv
    dsimp only
    exact ABG_payload (k := 1)
      (ABG_mono (ab_deN fo t w hpos ih n rest) (Nat.le_refl _) (by omega) (by omega)) (by omega)
      (Nat.le_refl _) (fun _ he => he.symm ▸ ⟨rfl, rfl⟩) (fun _ _ he => he.symm ▸ ⟨⟨_, rfl⟩, rfl⟩)

/-- the `Map` loop: `k` bytes of key in front of the value, at least the byte of the key's length;
this is why a map's value type may have zero width. -/
theorem kvs_step {a b w cv len k y : Nat} (hk : len + 1 ≤ k) (ha : a ≤ w * (cv + 1))
    (hb : b ≤ (w + 1) * (y + 1)) : a + (len + 1 + b) ≤ (w + 1) * (cv + y + k + 1) := by
  have h1 : w * (cv + 1) ≤ w * (cv + k) := Nat.mul_le_mul_left _ (by omega)
  rw [show cv + y + k + 1 = (cv + k) + (y + 1) by omega, Nat.mul_add, Nat.add_mul, Nat.one_mul]
  omega

theorem ab_deKvs (fo : FloatOps) (val : Schema) (w : Nat)
    (ih : ∀ bs, ABG (dynDe fo val bs) (allocDyn fo val bs) w (minWidth val) bs.length) :
    ∀ (n : Nat) (acc : List (List Byte × Json)) (bs : List Byte),
      ABG (deKvs (dynDe fo val) n acc bs) (allocKvs (allocDyn fo val) (dynDe fo val) n bs) (w + 1)
        0 bs.length
  | 0, acc, bs => ⟨Nat.le_refl _, Nat.zero_le _⟩
  | n + 1, acc, bs => by
    simp only [deKvs, allocKvs]
    cases hv : dynTakeVarint 64 bs with
    | error e => exact Nat.zero_le _
    | ok p =>
      obtain ⟨len, r⟩ := p
      have hl := dynTakeVarint_len hv
      dsimp only
      cases hn : dynTakeN len r with
      | error e => exact Nat.zero_le _
      | ok q =>
        obtain ⟨s, r'⟩ := q
        have hl2 := dynTakeN_len hn
        dsimp only
        by_cases hu : utf8Valid s = true
        · simp only [hu, ↓reduceIte]
          have h1 := ih r'
          cases hd : dynDe fo val r' with
          | error e => exact ABG_err (le_mul_mono (ABG_le (hd ▸ h1)) (by omega) (by omega))
          | ok p2 =>
            obtain ⟨v, r''⟩ := p2
            exact ABG_then (k := bs.length - r'.length) (hd ▸ h1)
              (ab_deKvs fo val w ih n (objInsert s v acc) r'') (by omega) (Nat.zero_le _)
              fun _ _ _ => kvs_step (by omega)
        · simp [hu, ABG]

theorem ab_map_string (fo : FloatOps) (val : Schema) (w : Nat)
    (ih : ∀ bs, ABG (dynDe fo val bs) (allocDyn fo val bs) w (minWidth val) bs.length)
    (bs : List Byte) :
    ABG (dynDe fo (.map .string val) bs) (allocDyn fo (.map .string val) bs) (w + 2) 1
      bs.length := by
  unfold allocDyn
  simp only [dynDe]
  cases hv : dynTakeVarint 64 bs with
  | error e => exact Nat.zero_le _
  | ok p =>
    obtain ⟨n, rest⟩ := p
    have hl := dynTakeVarint_len hv
    dsimp only
    exact ABG_payload (k := 1)
      (ABG_mono (ab_deKvs fo val w ih n [] rest) (Nat.le_refl _) (by omega) (by omega)) (by omega)
      (Nat.le_refl _) (fun _ he => he.symm ▸ ⟨rfl, rfl⟩) (fun _ _ he => he.symm ▸ ⟨⟨_, rfl⟩, rfl⟩)

theorem ab_enum (fo : FloatOps) (nm : Name) (vs : List SVariant) (W : Nat)
    (ih : ∀ k bs, ABG (dynDeVariant fo vs k bs) (allocVariant fo vs k bs) W 0 bs.length)
    (bs : List Byte) :
    ABG (dynDe fo (.enum nm vs) bs) (allocDyn fo (.enum nm vs) bs) (W + 1) 1 bs.length := by
  unfold allocDyn dynDe
  cases hv : dynTakeVarint 64 bs with
  | error e => exact Nat.zero_le _
  | ok p =>
    obtain ⟨k, rest⟩ := p
    have hl := dynTakeVarint_len hv
    dsimp only
    exact ABG_mono (ih k rest) (by omega) (by omega) (by omega)

theorem list_step {a b w1 w2 c y : Nat} (ha : a ≤ w1 * (c + 1)) (hb : b ≤ w2 * (y + 1)) :
    a + b ≤ (w1 + w2) * (c + y + 1) := by
  have h1 : w1 * (c + 1) ≤ w1 * (c + y + 1) := Nat.mul_le_mul_left _ (by omega)
  have h2 : w2 * (y + 1) ≤ w2 * (c + y + 1) := Nat.mul_le_mul_left _ (by omega)
  rw [Nat.add_mul]
  omega

/-- the loop of a struct: `k + 1` more for the field's name and its map entry. -/
theorem fields_step {a b w1 w2 k c y : Nat} (ha : a ≤ w1 * (c + 1)) (hb : b ≤ w2 * (y + 1)) :
    a + (k + 1 + b) ≤ (w1 + k + 1 + w2) * (c + y + 1) := by
  have h1 := list_step ha hb
  have h2 : k + 1 ≤ (k + 1) * (c + y + 1) := Nat.le_mul_of_pos_right _ (by omega)
  rw [show w1 + k + 1 + w2 = (w1 + w2) + (k + 1) by omega, Nat.add_mul]
  omega

mutual
theorem ab_val' (fo : FloatOps) : (s : Schema) → minWidthPos s = true → ∀ bs : List Byte,
    ABG (dynDe fo s bs) (allocDyn fo s bs) (allocW' s) (minWidth s) bs.length
  | .bool | .i8 | .u8 => fun _ bs => ABG_leaf rfl (by leaf_len dynTakeOne_len)
  | .i16 | .i32 | .i64 | .i128 | .u16 | .u32 | .u64 | .u128 | .usize | .isize => fun _ bs =>
    ABG_leaf rfl (by leaf_len dynTakeVarint_len)
  | .f32 | .f64 => fun _ bs => ABG_leaf rfl (by leaf_len fun h => (dynTakeN_len h).1)
  | .unit | .struct _ .unit => fun _ bs =>
    ABG_ok (a := Json.null) (Nat.le_refl _) (by rw [Nat.sub_self]; exact Nat.le_refl 1)
  | .char => fun _ bs => ab_str fo .char bs (de_char_len fo bs) rfl
  | .string => fun _ bs => ab_str fo .string bs (de_string_len fo bs) rfl
  | .byteArray => fun _ bs => ab_byteArray fo bs
  | .schema => fun _ bs => ab_schema fo bs
  | .option t => fun h bs => ab_option fo t _ (allocW'_pos t) (ab_val' fo t h) bs
  | .struct _ (.newtype t) => fun h bs => ab_val' fo t h bs
  | .seq t => fun h bs => by
    simp [minWidthPos] at h
    exact ab_seq fo t (allocW' t) h.1 (ab_val' fo t h.2) bs
  | .tuple ts | .struct _ (.tuple ts) => fun h bs => by
    unfold allocDyn dynDe
    exact ABG_payload (k := 1) (ab_list' fo ts h bs) (Nat.add_comm _ _ ▸ Nat.le_refl _)
      (Nat.le_refl _) (fun _ he => he.symm ▸ ⟨rfl, rfl⟩) (fun _ _ he => he.symm ▸ ⟨⟨_, rfl⟩, rfl⟩)
  | .struct _ (.struct fs) => fun h bs => by
    unfold allocDyn dynDe
    exact ABG_payload (k := 1) (ab_fields' fo fs h [] bs) (Nat.add_comm _ _ ▸ Nat.le_refl _)
      (Nat.le_refl _) (fun _ he => he.symm ▸ ⟨rfl, rfl⟩) (fun _ _ he => he.symm ▸ ⟨⟨_, rfl⟩, rfl⟩)
  | .map key val => fun h bs => by
    unfold dynDe
    split
    · exact ab_map_string fo val _ (ab_val' fo val h) bs
    · unfold allocDyn
      split
      · contradiction
      · exact ABG_err (Nat.zero_le _)
  | .enum nm vs => fun h bs => ab_enum fo nm vs (allocW'Variants vs) (ab_variants' fo vs h) bs
theorem ab_list' (fo : FloatOps) : (ts : List Schema) → minWidthPosList ts = true →
    ∀ bs : List Byte,
    ABG (dynDeList fo ts bs) (allocList fo ts bs) (allocW'List ts) (minWidthList ts) bs.length
  | [] => fun _ bs => ⟨Nat.le_refl _, Nat.zero_le _⟩
  | t :: ts => fun h bs => by
    simp [minWidthPosList] at h
    have h1 := ab_val' fo t h.1 bs
    simp only [dynDeList, allocList, allocW'List, minWidthList]
    cases hd : dynDe fo t bs with
    | error e =>
      exact ABG_err (le_mul_mono (ABG_le (hd ▸ h1)) (Nat.le_add_right _ _) (Nat.le_refl _))
    | ok p =>
      obtain ⟨v, r⟩ := p
      have h2 := ABG_then (k := 0) (hd ▸ h1) (ab_list' fo ts h.2 r) rfl (Nat.le_refl _)
        fun _ _ _ => list_step
      dsimp only
      revert h2
      cases dynDeList fo ts r <;> exact id
theorem ab_fields' (fo : FloatOps) : (fs : List SField) → minWidthPosFields fs = true →
    ∀ (acc : List (List Byte × Json)) (bs : List Byte),
    ABG (dynDeFields fo fs acc bs) (allocFields fo fs bs) (allocW'Fields fs) (minWidthFields fs)
      bs.length
  | [] => fun _ acc bs => ⟨Nat.le_refl _, Nat.zero_le _⟩
  | .mk name t :: fs => fun h acc bs => by
    simp [minWidthPosFields] at h
    have h1 := ab_val' fo t h.1 bs
    simp only [dynDeFields, allocFields, allocW'Fields, minWidthFields]
    cases hd : dynDe fo t bs with
    | error e => exact ABG_err (le_mul_mono (ABG_le (hd ▸ h1)) (by omega) (Nat.le_refl _))
    | ok p =>
      obtain ⟨v, r⟩ := p
      exact ABG_then (k := 0) (hd ▸ h1) (ab_fields' fo fs h.2 (objInsert name v acc) r) rfl
        (Nat.le_refl _) fun _ _ _ => fields_step
theorem ab_variants' (fo : FloatOps) : (vs : List SVariant) → minWidthPosVariants vs = true →
    ∀ (k : Nat) (bs : List Byte),
    ABG (dynDeVariant fo vs k bs) (allocVariant fo vs k bs) (allocW'Variants vs) 0 bs.length
  | [], _, k, bs => Nat.zero_le _
  | .mk name .unit :: vs, _, 0, bs => by
    simp only [dynDeVariant, allocVariant, allocW'Variants, allocW'Data, ABG]
    refine ⟨by omega, ?_⟩
    simp only [Nat.sub_self, Nat.zero_add, Nat.mul_one]
    omega
  | .mk name (.newtype t) :: vs, h, 0, bs => by
    simp [minWidthPosVariants, minWidthPosData] at h
    simp only [dynDeVariant, allocVariant, allocW'Variants, allocW'Data]
    exact ABG_payload (k := name.length + 2) (ab_val' fo t h.1 bs) (by omega) (Nat.zero_le _)
      (fun _ he => he.symm ▸ ⟨rfl, rfl⟩) (fun _ _ he => he.symm ▸ ⟨⟨_, rfl⟩, rfl⟩)
  | .mk name (.tuple ts) :: vs, h, 0, bs => by
    simp [minWidthPosVariants, minWidthPosData] at h
    simp only [dynDeVariant, allocVariant, allocW'Variants, allocW'Data]
    exact ABG_payload (k := name.length + 3) (ab_list' fo ts h.1 bs) (by omega) (Nat.zero_le _)
      (fun _ he => he.symm ▸ ⟨rfl, rfl⟩) (fun _ _ he => he.symm ▸ ⟨⟨_, rfl⟩, rfl⟩)
  | .mk name (.struct fs) :: vs, h, 0, bs => by
    simp [minWidthPosVariants, minWidthPosData] at h
    simp only [dynDeVariant, allocVariant, allocW'Variants, allocW'Data]
    exact ABG_payload (k := name.length + 3) (ab_fields' fo fs h.1 [] bs) (by omega) (Nat.zero_le _)
      (fun _ he => he.symm ▸ ⟨rfl, rfl⟩) (fun _ _ he => he.symm ▸ ⟨⟨_, rfl⟩, rfl⟩)
  | .mk name data :: vs, h, k + 1, bs => by
    simp [minWidthPosVariants] at h
    have h1 := ab_variants' fo vs h.2 k bs
    simp only [dynDeVariant, allocVariant, allocW'Variants]
    exact ABG_mono h1 (by omega) (Nat.le_refl _) (by omega)
end

end Postcard.DynA

namespace Postcard
open Dyn DynA

/-- C18 allocation bound, for EVERY schema kind (`Enum`, `Map`, `Schema` included), under the only
restriction that every reachable `Seq` element type has positive minimum encoded width
(`minWidthPos`; necessary: below, `alloc_seq_unit`, `dyn_alloc_bound_false`,
`alloc_map_seq_unit`, `alloc_enum_seq_unit`).  What `deserialize(s, bs)` allocates (as `allocDyn`
counts: `Value`s, `String` bytes, map entries), whether it succeeds or fails, is at most
`K * bs.length + C` with the explicit constants `K = C = allocW' s`. -/
theorem dyn_alloc_bound (fo : FloatOps) (s : Schema) (hs : minWidthPos s = true) (bs : List Byte) :
    allocDyn fo s bs ≤ allocW' s * bs.length + allocW' s := by
  have := ABG_le (ab_val' fo s hs bs)
  rw [Nat.mul_add, Nat.mul_one] at this
  exact this

/-- under the same hypothesis a successful decode consumes at least `minWidth s` bytes, and the
allocation is bounded by the bytes CONSUMED (not just by those offered). -/
theorem dyn_alloc_bound_consumed (fo : FloatOps) (s : Schema) (hs : minWidthPos s = true)
    (bs : List Byte) (j : Json) (r : List Byte) (h : dynDe fo s bs = .ok (j, r)) :
    r.length + minWidth s ≤ bs.length ∧
    allocDyn fo s bs ≤ allocW' s * (bs.length - r.length) + allocW' s := by
  have := ab_val' fo s hs bs
  rw [h] at this
  simp only [ABG] at this
  rw [Nat.mul_add, Nat.mul_one] at this
  exact this

theorem dyn_alloc_schema_kind (fo : FloatOps) (bs : List Byte) :
    allocDyn fo .schema bs ≤ 14 * bs.length + 14 :=
  dyn_alloc_bound fo .schema rfl bs

section
variable (fo : FloatOps)

/-- the `Seq` loop over a zero-width element: `n` rounds on the same input, one `Value` each. -/
theorem allocN_unit : ∀ (n : Nat) (bs : List Byte),
    allocN (allocDyn fo .unit) (dynDe fo .unit) n bs = n
  | 0, _ => rfl
  | n + 1, bs => by
    have h1 : allocDyn fo .unit bs = 1 := rfl
    have h2 : dynDe fo .unit bs = .ok (.null, bs) := rfl
    simp only [allocN, h1, h2, allocN_unit n bs]
    omega

theorem deN_unit : ∀ (n : Nat) (bs : List Byte),
    deN (dynDe fo .unit) n bs = .ok (List.replicate n .null, bs)
  | 0, _ => rfl
  | n + 1, bs => by
    have h2 : dynDe fo .unit bs = .ok (.null, bs) := rfl
    simp [deN, h2, deN_unit n bs, List.replicate_succ]

/-- Not repaired in /repo.  For every `n < 2^64` there is an input of at most 10 bytes (the varint
of `n`) on which decoding `Seq(Unit)` succeeds with `n` `Value::Null`s in a `Vec`:
`n + 1` `Value`s from `≤ 10` bytes.  (2^24 + 1 from the 4 bytes `80 80 80 08`, confirmed on the
real crate.) -/
theorem alloc_seq_unit {n : Nat} (h : n < 2 ^ 64) :
    allocDyn fo (.seq .unit) (encVarint 64 n) = n + 1 ∧
    dynDe fo (.seq .unit) (encVarint 64 n) = .ok (.arr (List.replicate n .null), []) ∧
    (encVarint 64 n).length ≤ 10 := by
  have hv : dynTakeVarint 64 (encVarint 64 n) = .ok (n, []) := by
    simpa using dynTakeVarint_enc widthOk64 h []
  have hd : dynDe fo (.seq .unit) (encVarint 64 n) = .ok (.arr (List.replicate n .null), []) := by
    unfold dynDe; rw [hv]; dsimp only; rw [deN_unit]
  refine ⟨?_, hd, ?_⟩
  · unfold allocDyn; rw [hv]; dsimp only; rw [allocN_unit, hd]; rfl
  · exact encVarintLoop_length_le _ _

example : encVarint 64 (2 ^ 24) = [0x80, 0x80, 0x80, 0x08] := by decide

/-- Not repaired in /repo.  No bound `K * len + C` with `10 K + C < 2^64` holds for `Seq(Unit)`:
refutes the unrestricted bound (DESIGN.md, C18) for every "constant multiple" of practical size. -/
theorem dyn_alloc_bound_false (K C : Nat) (h : 10 * K + C + 1 < 2 ^ 64) :
    ¬ (∀ bs : List Byte, allocDyn fo (.seq .unit) bs ≤ K * bs.length + C) := by
  intro hb
  have hn : 10 * K + C < 2 ^ 64 := by omega
  obtain ⟨ha, _, hl⟩ := alloc_seq_unit fo hn
  have := hb (encVarint 64 (10 * K + C))
  rw [ha] at this
  have : K * (encVarint 64 (10 * K + C)).length ≤ K * 10 := Nat.mul_le_mul_left K hl
  omega

end

/-- Not repaired in /repo (same finding as `alloc_seq_unit`, reached through a `Map` value): the
condition on `Seq` elements cannot be dropped below a `Map` with `String` keys — `n + 1` `Value`s
from at most 12 bytes. -/
theorem alloc_map_seq_unit (fo : FloatOps) {n : Nat} (h : n < 2 ^ 64) :
    n + 1 ≤ allocDyn fo (.map .string (.seq .unit)) (1 :: 0 :: encVarint 64 n) ∧
    (1 :: 0 :: encVarint 64 n).length ≤ 12 := by
  obtain ⟨ha, hd, hl⟩ := alloc_seq_unit fo h
  have hv1 : dynTakeVarint 64 (1 :: 0 :: encVarint 64 n) = .ok (1, 0 :: encVarint 64 n) := rfl
  have hv0 : dynTakeVarint 64 (0 :: encVarint 64 n) = .ok (0, encVarint 64 n) := rfl
  have hn : dynTakeN 0 (encVarint 64 n) = .ok ([], encVarint 64 n) := by simp [dynTakeN]
  have hu : utf8Valid [] = true := by decide
  refine ⟨?_, by simp only [List.length_cons]; omega⟩
  unfold allocDyn; rw [hv1]
  simp only [allocKvs, hv0, hn, ha, hd, hu, if_true]
  omega

/-- the same through an `Enum` variant. -/
theorem alloc_enum_seq_unit (fo : FloatOps) {n : Nat} (h : n < 2 ^ 64) :
    n + 1 ≤ allocDyn fo (.enum [69] [.mk [65] (.newtype (.seq .unit))]) (0 :: encVarint 64 n) ∧
    (0 :: encVarint 64 n).length ≤ 11 := by
  obtain ⟨ha, hd, hl⟩ := alloc_seq_unit fo h
  have hv0 : dynTakeVarint 64 (0 :: encVarint 64 n) = .ok (0, encVarint 64 n) := rfl
  refine ⟨?_, by simp only [List.length_cons]; omega⟩
  unfold allocDyn; rw [hv0]
  simp only [allocVariant, ha, hd]
  omega

/-- `minWidthPos` excludes exactly these shapes … -/
example : minWidthPos (.map .string (.seq .unit)) = false ∧
    minWidthPos (.enum [69] [.mk [65] (.newtype (.seq .unit))]) = false ∧
    minWidthPos (.seq (.tuple [])) = false ∧
    minWidthPos (.option (.seq (.struct [83] .unit))) = false := by
  decide

/-- … and nothing else about `Map`/`Enum`/`Schema`: a `Map` VALUE type and an `Enum` variant may
have zero width (each map entry consumes the byte of its key length, the enum its tag); a `Seq`
of enums, maps or schemas is fine; a `Map` with a non-`String` key is rejected before anything
is allocated. -/
example : minWidthPos (.map .string .unit) = true ∧
    minWidthPos (.seq (.enum [69] [.mk [65] .unit, .mk [66] (.tuple [])])) = true ∧
    minWidthPos (.seq (.map .string (.tuple []))) = true ∧
    minWidthPos (.seq .schema) = true ∧
    minWidthPos (.map .u8 (.seq .unit)) = true := by decide

mutual
/-- a sub-fragment of `minWidthPos` with the same weight (`frag_sub`);
`dyn_alloc_bound_partial_frag` is stated on it. -/
def allocFrag : Schema → Bool
  | .option t => allocFrag t
  | .seq t => decide (0 < minWidth t) && allocFrag t
  | .tuple ts => allocFragList ts
  | .map _ _ => false
  | .struct _ d => allocFragData d
  | .enum _ _ => false
  | .schema => false
  | _ => true
def allocFragList : List Schema → Bool
  | [] => true
  | t :: ts => allocFrag t && allocFragList ts
def allocFragData : SData → Bool
  | .unit => true
  | .newtype t => allocFrag t
  | .tuple ts => allocFragList ts
  | .struct fs => allocFragFields fs
def allocFragFields : List SField → Bool
  | [] => true
  | .mk _ t :: fs => allocFrag t && allocFragFields fs
end

mutual
/-- the constant of the bound `allocDyn fo s bs ≤ allocW s * (bs.length + 1)`, which holds on the
fragment `allocFrag s` only (`dyn_alloc_bound_partial_frag`): a `Map`, `Enum` or `Schema` node
weighs 1 here and more in `allocW'`.  Linear in the size of the schema and its field names,
doubled by every `Seq` nesting level. -/
def allocW : Schema → Nat
  | .option t => allocW t
  | .seq t => 2 * allocW t + 1
  | .tuple ts => allocWList ts + 1
  | .struct _ d => allocWData d
  | _ => 1
def allocWList : List Schema → Nat
  | [] => 0
  | t :: ts => allocW t + allocWList ts
def allocWData : SData → Nat
  | .unit => 1
  | .newtype t => allocW t
  | .tuple ts => allocWList ts + 1
  | .struct fs => allocWFields fs + 1
def allocWFields : List SField → Nat
  | [] => 0
  | .mk n t :: fs => allocW t + n.length + 1 + allocWFields fs
end

theorem allocW_pos : ∀ s : Schema, 1 ≤ allocW s
  | .option t | .struct _ (.newtype t) => allocW_pos t
  | .seq _ | .tuple _ | .struct _ (.tuple _) | .struct _ (.struct _) => Nat.le_add_left 1 _
  | .struct _ .unit | .map _ _ | .enum _ _ | .schema | .bool | .i8 | .u8 | .i16 | .i32 | .i64
  | .i128 | .u16 | .u32 | .u64 | .u128 | .usize | .isize | .f32 | .f64 | .char | .string
  | .byteArray | .unit => Nat.le_refl 1

theorem frag_sub_all :
    (∀ s, allocFrag s = true → minWidthPos s = true ∧ allocW' s = allocW s) ∧
    (∀ d, allocFragData d = true → minWidthPosData d = true ∧ allocW'Data d = allocWData d) ∧
    (∀ fs, allocFragFields fs = true →
      minWidthPosFields fs = true ∧ allocW'Fields fs = allocWFields fs) ∧
    (∀ ts, allocFragList ts = true →
      minWidthPosList ts = true ∧ allocW'List ts = allocWList ts) := by
  apply allocFrag.mutual_induct
  all_goals intros
  all_goals simp_all [allocFrag, allocFragList, allocFragData, allocFragFields, minWidthPos,
    minWidthPosList, minWidthPosData, minWidthPosFields, allocW', allocW'List, allocW'Data,
    allocW'Fields, allocW, allocWList, allocWData, allocWFields]

theorem frag_sub : (s : Schema) → allocFrag s = true →
    minWidthPos s = true ∧ allocW' s = allocW s :=
  frag_sub_all.1
theorem frag_sub_list : (ts : List Schema) → allocFragList ts = true →
    minWidthPosList ts = true ∧ allocW'List ts = allocWList ts := frag_sub_all.2.2.2
theorem frag_sub_data : (d : SData) → allocFragData d = true →
    minWidthPosData d = true ∧ allocW'Data d = allocWData d := frag_sub_all.2.1
theorem frag_sub_fields : (fs : List SField) → allocFragFields fs = true →
    minWidthPosFields fs = true ∧ allocW'Fields fs = allocWFields fs := frag_sub_all.2.2.1

end Postcard

namespace Postcard.Dyn
open DynA

theorem ab_list (fo : FloatOps) : (ts : List Schema) → allocFragList ts = true →
    ∀ bs : List Byte,
    ABG (dynDeList fo ts bs) (allocList fo ts bs) (allocWList ts) (minWidthList ts) bs.length :=
  fun ts h bs => (frag_sub_list ts h).2 ▸ ab_list' fo ts (frag_sub_list ts h).1 bs

theorem ab_fields (fo : FloatOps) : (fs : List SField) → allocFragFields fs = true →
    ∀ (acc : List (List Byte × Json)) (bs : List Byte),
    ABG (dynDeFields fo fs acc bs) (allocFields fo fs bs) (allocWFields fs) (minWidthFields fs)
      bs.length :=
  fun fs h acc bs => (frag_sub_fields fs h).2 ▸ ab_fields' fo fs (frag_sub_fields fs h).1 acc bs

end Postcard.Dyn

namespace Postcard
open Dyn DynA

/-- C18 allocation bound on the fragment `allocFrag s` (every `Seq` element type has positive
minimum encoded width; no `Enum`, `Map`, `Schema` node; `dyn_alloc_bound` covers those too): what
`deserialize(s, bs)` allocates (as `allocDyn` counts: `Value`s, `String` bytes, map entries),
whether it succeeds or fails, is at most `K * bs.length + C` with the explicit constants
`K = C = allocW s` (1 per scalar node, plus the field names, doubled by each `Seq` level).
`alloc_seq_unit` / `dyn_alloc_bound_false` show that the restriction on `Seq` elements is necessary
(finding, not repaired in /repo). -/
theorem dyn_alloc_bound_partial_frag (fo : FloatOps) (s : Schema) (hs : allocFrag s = true)
    (bs : List Byte) : allocDyn fo s bs ≤ allocW s * bs.length + allocW s :=
  (frag_sub s hs).2 ▸ dyn_alloc_bound fo s (frag_sub s hs).1 bs

theorem dyn_de_consumes_frag (fo : FloatOps) (s : Schema) (hs : allocFrag s = true)
    (bs : List Byte) (j : Json) (r : List Byte) (h : dynDe fo s bs = .ok (j, r)) :
    r.length + minWidth s ≤ bs.length :=
  (dyn_alloc_bound_consumed fo s (frag_sub s hs).1 bs j r h).1

example : allocW (.seq .u8) = 3 ∧ allocW (.seq (.seq .string)) = 7 ∧
    allocW (.struct [83] (.struct [.mk [97, 98] .u8, .mk [99] (.seq .bool)])) = 10 := by decide
example : allocFrag (.seq (.struct [83] (.struct [.mk [97] .u8,
      .mk [98] (.option (.tuple []))]))) = true ∧
    allocFrag (.seq .unit) = false ∧ allocFrag (.seq (.tuple [])) = false ∧
    allocFrag (.seq (.struct [83] .unit)) = false := by decide

def exSchema : Schema :=
  .enum [69] [.mk [65] .unit,
              .mk [66, 66] (.newtype (.map .string (.seq .u8))),
              .mk [67] (.struct [.mk [120] .schema, .mk [121] (.option .bool)]),
              .mk [68] (.tuple [.string, .map .string .unit])]

example : minWidthPos exSchema = true := by decide
example : allocW' exSchema = 24 := by decide
example : allocW' (.map .string (.seq .u8)) = 5 ∧ allocW' .schema = 14 ∧
    allocW' (.seq (.enum [69] [.mk [65] .unit, .mk [66, 66] (.newtype .u8)])) = 13 ∧
    allocW' (.map .string (.map .string .schema)) = 18 := by decide

/-- variant 1 (`BB`), a map with the one entry `"k" ↦ [7, 8]`: 10 units allocated from 7 bytes
(2 numbers + the array, the key byte + the entry + the map, the 2 bytes of the variant name + the
wrapper object and its entry); the bound gives `24 * 7 + 24`. -/
example : dynDe foTrivial exSchema [1, 1, 1, 107, 2, 7, 8] =
    .ok (.obj [([66, 66], .obj [([107], .arr [.posInt 7, .posInt 8])])], []) := rfl
example : allocDyn foTrivial exSchema [1, 1, 1, 107, 2, 7, 8] = 10 := by decide +kernel
example : allocDyn foTrivial exSchema [1, 1, 1, 107, 2, 7, 8] ≤
    allocW' exSchema * [1, 1, 1, 107, 2, 7, 8].length + allocW' exSchema :=
  dyn_alloc_bound foTrivial exSchema (by decide) _

/-- variant 2 (`C`): an embedded schema value `Option(Map{key: String, val: U8})` (bytes
`18 22 16 2`) and `Some(true)`: the `Value` tree of the schema costs 32 from 4 bytes (≤ 14 * 4). -/
example : allocDyn foTrivial .schema [18, 22, 16, 2] = 32 := by decide +kernel
example : allocDyn foTrivial exSchema [2, 18, 22, 16, 2, 1, 1] = 41 := by decide +kernel

/-- a failing decode is covered too (the claimed map length 200 is never pre-allocated). -/
example : dynDe foTrivial exSchema [1, 200, 1, 1, 107, 2, 7, 8] = .error .unexpectedEnd := rfl
example : allocDyn foTrivial exSchema [1, 200, 1, 1, 107, 2, 7, 8] = 5 := by decide +kernel

end Postcard
