import Postcard.Model.Fixint
import Postcard.Lemmas.HasTy
import Postcard.Props.C01
/-
  Postcard.Props.C13 — "Fixed-width integer adapters emit exactly size_of bytes
  in the chosen byte order … never a varint … decoding returns the original
  integer."   (source/postcard/src/fixint.rs)
-/
namespace Postcard

theorem encList_byteVals (bs : List Byte) :
    encList (bs.map (fun b => Val.u .w8 b.toNat)) = bs := by
  induction bs with
  | nil => rfl
  | cons b bs ih =>
    show UInt8.ofNat b.toNat :: encList (bs.map _) = b :: bs
    rw [ih, UInt8.ofNat_toNat]

theorem enc_byteArrayVal (bs : List Byte) : enc (byteArrayVal bs) = bs := encList_byteVals bs

theorem byteArrayVal_hasTy {bs : List Byte} {k : Nat} (h : bs.length = k) :
    hasTy (byteArrayVal bs) (.tuple (List.replicate k (.u .w8))) = true :=
  hasTys_replicate.2 ⟨(List.length_map _).trans h, fun v hv => by
    obtain ⟨b, _, rfl⟩ := List.mem_map.1 hv
    exact Bool.and_eq_true_iff.2 ⟨rfl, decide_eq_true (UInt8.toNat_lt b)⟩⟩

theorem bytesOfVals_byteVals (bs : List Byte) :
    bytesOfVals (bs.map (fun b => Val.u .w8 b.toNat)) = some bs := by
  induction bs with
  | nil => simp [bytesOfVals]
  | cons b bs ih =>
    simp [bytesOfVals, ih, UInt8.ofNat_toNat, show b.toNat < 256 from UInt8.toNat_lt b]

theorem unfixLE_byteArrayVal (w : IntW) (s : Bool) (bs : List Byte) :
    unfixLE w s (byteArrayVal bs) =
      if bs.length = w.bits / 8 then some (fixOfBytesLE w s bs) else none := by
  simp only [unfixLE, byteArrayVal, bytesOfVals_byteVals]

theorem unfixBE_byteArrayVal (w : IntW) (s : Bool) (bs : List Byte) :
    unfixBE w s (byteArrayVal bs) =
      if bs.length = w.bits / 8 then some (fixOfBytesLE w s bs.reverse) else none := by
  simp only [unfixBE, byteArrayVal, bytesOfVals_byteVals]

theorem fixBytesLE_length (w : IntW) (x : Int) : (fixBytesLE w x).length = w.bits / 8 :=
  leBytes_length _ _

theorem fixBytesBE_length (w : IntW) (x : Int) : (fixBytesBE w x).length = w.bits / 8 := by
  rw [fixBytesBE, List.length_reverse, fixBytesLE_length]

theorem fixOfBytesLE_fixBytesLE (w : IntW) (s : Bool) (x : Int) (h : fixInRange w s x = true) :
    fixOfBytesLE w s (fixBytesLE w x) = x := by
  have hlt : toBits w.bits x < 256 ^ (w.bits / 8) := by rw [IntW.pow256]; exact toBits_lt _ _
  unfold fixOfBytesLE fixBytesLE
  rw [ofLeBytes_leBytes hlt]
  cases s
  · simp [fixInRange] at h
    simpa using toBits_of_nonneg h.1 h.2
  · simp only [fixInRange, if_true] at h
    simpa using ofBits_toBits (IntW.bits_pos w) ((IntW.inRangeI_iff w x).1 h)

/-- C13: the little-endian adapter emits exactly `x.to_le_bytes()`. -/
theorem fixint_le (w : IntW) (s : Bool) (x : Int) :
    enc (fixLE w s x) = leBytes (w.bits / 8) (toBits w.bits x) :=
  enc_byteArrayVal _

/-- C13: the big-endian adapter emits exactly the same bytes in reverse order
(`x.to_be_bytes()`). -/
theorem fixint_be (w : IntW) (s : Bool) (x : Int) :
    enc (fixBE w s x) = (leBytes (w.bits / 8) (toBits w.bits x)).reverse :=
  enc_byteArrayVal _

/-- C13: exactly `size_of::<T>()` bytes, whatever the magnitude of `x`
(no in-range hypothesis is needed). -/
theorem fixint_length (w : IntW) (s : Bool) (x : Int) :
    (enc (fixLE w s x)).length = w.bits / 8 ∧ (enc (fixBE w s x)).length = w.bits / 8 := by
  rw [fixint_le, fixint_be]; simp [leBytes_length]

/-- `size_of` for the eight types the macro is instantiated at. -/
theorem fixint_length_table (s : Bool) (x : Int) :
    (enc (fixLE .w16 s x)).length = 2 ∧ (enc (fixLE .w32 s x)).length = 4 ∧
    (enc (fixLE .w64 s x)).length = 8 ∧ (enc (fixLE .w128 s x)).length = 16 ∧
    (enc (fixBE .w16 s x)).length = 2 ∧ (enc (fixBE .w32 s x)).length = 4 ∧
    (enc (fixBE .w64 s x)).length = 8 ∧ (enc (fixBE .w128 s x)).length = 16 :=
  ⟨(fixint_length .w16 s x).1, (fixint_length .w32 s x).1, (fixint_length .w64 s x).1,
    (fixint_length .w128 s x).1, (fixint_length .w16 s x).2, (fixint_length .w32 s x).2,
    (fixint_length .w64 s x).2, (fixint_length .w128 s x).2⟩

theorem fixint_le_unsigned (w : IntW) (n : Nat) (h : n < 2 ^ w.bits) :
    enc (fixLE w false (n : Int)) = leBytes (w.bits / 8) n := by
  rw [fixint_le, toBits_natCast h]

theorem fixint_hasTy (w : IntW) (s : Bool) (x : Int) :
    hasTy (fixLE w s x) (fixTy w) = true ∧ hasTy (fixBE w s x) (fixTy w) = true :=
  ⟨byteArrayVal_hasTy (fixBytesLE_length w x), byteArrayVal_hasTy (fixBytesBE_length w x)⟩

/-- C13: decoding (`<[u8; N]>::deserialize`, then `from_le_bytes`) returns the
original integer and consumes exactly the `N` bytes. -/
theorem fixint_roundtrip_le (w : IntW) (s : Bool) (x : Int) (h : fixInRange w s x = true)
    (rest : List Byte) :
    dec (fixTy w) (enc (fixLE w s x) ++ rest) = .ok (fixLE w s x, rest) ∧
    unfixLE w s (fixLE w s x) = some x := by
  refine ⟨roundtrip _ _ (fixint_hasTy w s x).1 rest, ?_⟩
  rw [fixLE, unfixLE_byteArrayVal, if_pos (fixBytesLE_length w x), fixOfBytesLE_fixBytesLE w s x h]

theorem fixint_roundtrip_be (w : IntW) (s : Bool) (x : Int) (h : fixInRange w s x = true)
    (rest : List Byte) :
    dec (fixTy w) (enc (fixBE w s x) ++ rest) = .ok (fixBE w s x, rest) ∧
    unfixBE w s (fixBE w s x) = some x := by
  refine ⟨roundtrip _ _ (fixint_hasTy w s x).2 rest, ?_⟩
  rw [fixBE, unfixBE_byteArrayVal, if_pos (fixBytesBE_length w x), fixBytesBE,
    List.reverse_reverse, fixOfBytesLE_fixBytesLE w s x h]

/-- the ordinary (varint / zig-zag varint) serialisation of the same integer:
`serialize_uN` / `serialize_iN`. -/
def plainInt (w : IntW) (signed : Bool) (x : Int) : Val :=
  if signed then .i w x else .u w x.toNat

/-- If a little-endian string of at least two bytes is also a canonical varint, then the
varint carries a smaller number than the bytes spell (its first byte has the flag bit
set, and little-endian counts that bit), and the bytes' top bit is clear (a varint ends
in a byte `< 128`). -/
theorem leBytes_eq_varint {k m z : Nat} (hk : 2 ≤ k) (hm : m < 256 ^ k)
    (h : leBytes k m = Spec.varint z) : z < m ∧ m < 256 ^ (k - 1) * 128 := by
  obtain ⟨q, l, hs, hq, hl, hv⟩ := spec_varint_shape z
  have hlen : q.length + 1 = k := by
    rw [← leBytes_length k m, h, hs, List.length_append, List.length_singleton]
  have hval : ofLeBytes (q ++ [l]) = m := by rw [← hs, ← h]; exact ofLeBytes_leBytes hm
  constructor
  · cases q with
    | nil => rw [List.length_nil] at hlen; omega
    | cons b q =>
      have := varintValue_le_ofLeBytes (q ++ [l])
      have := hq b List.mem_cons_self
      rw [List.cons_append, varintValue] at hv
      rw [List.cons_append, ofLeBytes] at hval
      omega
  · rw [← hval, ofLeBytes_concat, show k - 1 = q.length by omega, Nat.add_comm,
      Nat.mul_comm _ l.toNat, Nat.mul_comm _ 128]
    exact (mul_add_lt_iff 128 (ofLeBytes_lt q)).2 hl

/-- C13 ("never a varint"), unsigned: for `u16 … u128` and EVERY value, the
fixed little-endian encoding is different from the varint encoding
`serialize_uN` would produce (for `n < 128` already by length: `N ≥ 2` bytes
against one). -/
theorem fixint_never_varint_unsigned (w : IntW) (hw : w ≠ .w8) (n : Nat) (h : n < 2 ^ w.bits) :
    enc (fixLE w false (n : Int)) ≠ enc (.u w n) := by
  rw [fixint_le_unsigned w n h, enc_uN_spec hw h]
  exact fun heq => Nat.lt_irrefl n
    (leBytes_eq_varint (IntW.fix_ge_two hw) (IntW.pow256 w ▸ h) heq).1

/-- C13 ("never a varint"), signed: for `i16 … i128` and every in-range value,
the fixed little-endian encoding is different from the zig-zag varint encoding
`serialize_iN` would produce. -/
theorem fixint_never_varint_signed (w : IntW) (hw : w ≠ .w8) (x : Int)
    (h : w.inRangeI x = true) :
    enc (fixLE w true x) ≠ enc (.i w x) := by
  have hr := (IntW.inRangeI_iff w x).1 h
  obtain ⟨Q, hQ, hP, hN, hI⟩ := two_pow_half (IntW.bits_pos w)
  rw [hP] at hr
  rw [enc_iN_spec hw h, fixint_le]
  intro heq
  have ⟨h1, h2⟩ := leBytes_eq_varint (IntW.fix_ge_two hw)
    (IntW.pow256 w ▸ toBits_lt w.bits x) heq
  rw [IntW.pow256_top, hQ] at h2
  by_cases hx : 0 ≤ x
  · -- zig-zag doubles a non-negative value
    have ht := toBits_of_nonneg (bits := w.bits) hx (by rw [hI]; omega)
    rw [Spec.zigzag, if_pos hx] at h1
    omega
  · -- a negative value has the top bit set
    have ht := toBits_of_neg (bits := w.bits) (x := x) (by omega) (by rw [hI]; omega)
    rw [hI] at ht
    omega

/-- C13 ("never a varint"), both signs in one statement. -/
theorem fixint_never_varint (w : IntW) (hw : w ≠ .w8) (s : Bool) (x : Int)
    (h : fixInRange w s x = true) :
    enc (fixLE w s x) ≠ enc (plainInt w s x) ∧ (enc (fixLE w s x)).length = w.bits / 8 := by
  refine ⟨?_, (fixint_length w s x).1⟩
  cases s
  · simp [fixInRange] at h
    obtain ⟨n, rfl⟩ := Int.eq_ofNat_of_zero_le h.1
    simpa [plainInt] using fixint_never_varint_unsigned w hw n (by exact_mod_cast h.2)
  · simp only [fixInRange, if_true] at h
    simpa [plainInt] using fixint_never_varint_signed w hw x h

/-- The same with the bytes in big-endian order: the flag bit of the varint's first byte is
then the top bit of the number the bytes spell, while a varint of `k` bytes carries less
than `2 ^ (7 * k)`. -/
theorem leBytes_reverse_eq_varint {k m z : Nat} (hk : 2 ≤ k) (hm : m < 256 ^ k)
    (h : (leBytes k m).reverse = Spec.varint z) : 256 ^ (k - 1) * 128 ≤ m ∧ z < 2 ^ (7 * k) := by
  obtain ⟨q, l, hs, hq, _, hv⟩ := spec_varint_shape z
  have hlen : k = q.length + 1 := by
    have := congrArg List.length h
    rwa [List.length_reverse, leBytes_length, hs, List.length_append,
      List.length_singleton] at this
  constructor
  · cases q with
    | nil => rw [List.length_nil] at hlen; omega
    | cons b q =>
      have hval : ofLeBytes ((l :: q.reverse) ++ [b]) = m := by
        rw [← ofLeBytes_leBytes hm, ← List.reverse_reverse (leBytes k m), h, hs]
        simp
      rw [ofLeBytes_concat, show (l :: q.reverse).length = k - 1 by simp at hlen ⊢; omega] at hval
      have := Nat.mul_le_mul_left (256 ^ (k - 1)) (hq b List.mem_cons_self)
      omega
  · have := varintValue_lt (q ++ [l])
    rwa [hv, List.length_append, List.length_singleton, ← hlen] at this

/-- C13 ("never a varint"), the big-endian adapter, unsigned. -/
theorem fixint_be_never_varint_unsigned (w : IntW) (hw : w ≠ .w8) (n : Nat)
    (h : n < 2 ^ w.bits) :
    enc (fixBE w false (n : Int)) ≠ enc (.u w n) := by
  rw [fixint_be, toBits_natCast h, enc_uN_spec hw h]
  intro heq
  have ⟨h1, h2⟩ := leBytes_reverse_eq_varint (IntW.fix_ge_two hw) (IntW.pow256 w ▸ h) heq
  rw [IntW.pow256_top] at h1
  have : 2 ^ (7 * (w.bits / 8)) ≤ 2 ^ (w.bits - 1) :=
    Nat.pow_le_pow_right (by decide) (by cases w <;> simp [IntW.bits] at hw ⊢)
  omega

-- `test_little_endian`: `DefinitelyLE { x: 0xABCD }` ↦ `[0xCD, 0xAB]`
example : enc (.struct [fixLE .w16 false 0xABCD]) = [0xCD, 0xAB] := by decide +kernel
-- `test_big_endian`: `DefinitelyBE { x: 0xABCD }` ↦ `[0xAB, 0xCD]`
example : enc (.struct [fixBE .w16 false 0xABCD]) = [0xAB, 0xCD] := by decide +kernel
example : dec (.struct [fixTy .w16]) [0xCD, 0xAB] =
    .ok (.struct [fixLE .w16 false 0xABCD], []) := by rfl
example : unfixLE .w16 false (fixLE .w16 false 0xABCD) = some 0xABCD := by decide +kernel
example : unfixBE .w16 false (fixBE .w16 false 0xABCD) = some 0xABCD := by decide +kernel
example : enc (.u .w16 0xABCD) = [0xCD, 0xD7, 0x02] := by decide +kernel
example : enc (fixLE .w32 false 1) = [1, 0, 0, 0] ∧ enc (.u .w32 1) = [1] := by decide +kernel
example : enc (fixBE .w32 false 1) = [0, 0, 0, 1] := by decide +kernel
example : enc (fixLE .w16 true (-2)) = [0xFE, 0xFF] ∧ enc (.i .w16 (-2)) = [3] := by decide +kernel
example : unfixLE .w16 true (fixLE .w16 true (-2)) = some (-2) := by decide +kernel
example : unfixBE .w64 true (fixBE .w64 true (-0x8000000000000000)) =
    some (-0x8000000000000000) := by decide +kernel
example : enc (fixLE .w128 false (2 ^ 128 - 1)) = List.replicate 16 0xFF := by decide +kernel
example : fixInRange .w16 false 0xABCD = true ∧ fixInRange .w16 true 0xABCD = false
    ∧ fixInRange .w16 false (-1) = false ∧ fixInRange .w16 true (-32768) = true := by decide +kernel
-- the in-range hypothesis of the round trip is needed: 2^16 wraps to 0
example : unfixLE .w16 false (fixLE .w16 false 65536) = some 0 := by decide +kernel

end Postcard
