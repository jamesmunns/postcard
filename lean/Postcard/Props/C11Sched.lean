import Postcard.Props.C11
/-
  The `write_all` / `read_exact` loops of std, run over an arbitrary schedule of answers of the
  underlying `write` / `read`, refine the atomic transitions `WriterSt.writeAll` /
  `IOReaderSt.readExact` of Model/DeFlavor.lean: the number and sizes of the partial reads and
  writes, retried `Interrupted`s and a sink answering `Ok(0)` are not visible to postcard.

  mirrors (external, std / embedded-io):
  * `std::io::Write::write_all`
      while !buf.is_empty() { match self.write(buf) {
          Ok(0) => return Err(WriteZero), Ok(n) => buf = &buf[n..],
          Err(e) if e.kind() == Interrupted => {}, Err(e) => return Err(e) } }
  * `std::io::Read::read_exact` (`default_read_exact`)
      while !buf.is_empty() { match this.read(buf) {
          Ok(0) => break, Ok(n) => buf = &mut buf[n..],
          Err(e) if e.is_interrupted() => {}, Err(e) => return Err(e) } }
      if !buf.is_empty() { Err(UnexpectedEof) } else { Ok(()) }
  (`embedded_io::{Write::write_all, Read::read_exact}` are the same loops without
  the `Interrupted` arm.)

  A schedule is the list of answers the sink / source gives to the successive `write` / `read`
  calls.  Each loop iteration consumes exactly one answer, so the loops are structurally recursive
  on the schedule (no fuel).  An exhausted schedule counts as a hard error (`fail`): the theorems
  quantify over ALL schedules, so this only adds behaviours.
-/
namespace Postcard

/-- one answer of `Write::write(buf)`.  A real `write` answering `Ok(n)` has `1 ≤ n ≤ buf.len()`
(`Ok(0)` is the separate answer `zero`), so `accept n` hands over `min (n+1) buf.len()` bytes and
every `accept` is a meaningful answer. -/
inductive WResp
  | accept (n : Nat)   -- `Ok(min (n+1) buf.len())`
  | zero               -- `Ok(0)`
  | interrupted        -- `Err(e)`, `e.kind() == Interrupted`
  | fail               -- any other `Err(e)`
  deriving DecidableEq, Repr

/-- one answer of `Read::read(buf)`.  `deliver k` hands out `min (k+1) (min wanted available)` bytes
of a non-empty stream and is `Ok(0)` (end of stream) on an empty one: the `stream` of `IOReaderSt`
is by definition everything the reader will ever deliver, so `Ok(0)` happens exactly at its end. -/
inductive RResp
  | deliver (n : Nat)  -- `Ok(min (n+1) (min buf.len() available))`; `Ok(0)` at end of stream
  | interrupted
  | fail
  deriving DecidableEq, Repr

/-- `write_all(bs)` on a sink that has accepted `written` so far and answers
the successive `write` calls with `sched`.  Returns (everything the sink has
accepted, `Ok`?, the unused answers). -/
def writeAllLoop : List WResp → List Byte → List Byte → List Byte × Bool × List WResp
  | sched, w, [] => (w, true, sched)                       -- `while !buf.is_empty()`
  | [], w, _ :: _ => (w, false, [])                        -- exhausted schedule = hard error
  | r :: s, w, b :: bs =>
    match r with
    | .accept n => writeAllLoop s (w ++ (b :: bs).take (n + 1)) ((b :: bs).drop (n + 1))
    | .zero => (w, false, s)                               -- `Ok(0) => Err(WriteZero)`
    | .interrupted => writeAllLoop s w (b :: bs)           -- retry
    | .fail => (w, false, s)

/-- `read_exact(buf)`, `buf.len() = n`, on a reader whose undelivered future is
`stream` and which answers the successive `read` calls with `sched`.  Returns
(the filled buffer on `Ok`, the reader's remaining future, the unused answers). -/
def readExactLoop : List RResp → List Byte → Nat → Option (List Byte) × List Byte × List RResp
  | sched, stream, 0 => (some [], stream, sched)           -- `while !buf.is_empty()`
  | [], stream, _ + 1 => (none, stream, [])                -- exhausted schedule = hard error
  | r :: s, stream, n + 1 =>
    match r with
    | .interrupted => readExactLoop s stream (n + 1)       -- retry
    | .fail => (none, stream, s)
    | .deliver k =>
      match stream with
      | [] => (none, [], s)                                -- `Ok(0)` → `UnexpectedEof`
      | c :: cs =>
        let m := min (k + 1) (min (n + 1) (cs.length + 1))
        let r := readExactLoop s ((c :: cs).drop m) (n + 1 - m)
        (r.1.map ((c :: cs).take m ++ ·), r.2.1, r.2.2)

def WResp.isInterrupted : WResp → Bool
  | .interrupted => true
  | _ => false

def RResp.isInterrupted : RResp → Bool
  | .interrupted => true
  | _ => false

theorem writeAllLoop_nil_buf (s : List WResp) (w : List Byte) :
    writeAllLoop s w [] = (w, true, s) := by
  rw [writeAllLoop]

/-- On failure `p` is a STRICT prefix: the loop fails only while `buf` is non-empty. -/
theorem writeAllLoop_spec (s : List WResp) (w bs : List Byte) :
    ∃ p, (writeAllLoop s w bs).1 = w ++ p ∧ p <+: bs ∧
      ((writeAllLoop s w bs).2.1 = true → p = bs) ∧
      ((writeAllLoop s w bs).2.1 = false → p.length < bs.length) := by
  fun_induction writeAllLoop s w bs with
  -- `bs = []`, schedule exhausted, `zero`, `fail`: the call ends and nothing is accepted
  | case1 | case2 | case4 | case6 => exact ⟨[], by simp⟩
  | case5 _ _ _ _ ih => exact ih  -- `interrupted`
  | case3 s w b bs n ih =>        -- `accept n`
    obtain ⟨p, h1, h2, h3, h4⟩ := ih
    have hsplit : (b :: bs).take (n + 1) ++ (b :: bs).drop (n + 1) = b :: bs :=
      List.take_append_drop _ _
    refine ⟨(b :: bs).take (n + 1) ++ p, by rw [← List.append_assoc]; exact h1, ?_,
      fun hs => by rw [h3 hs, hsplit], fun hf => ?_⟩
    · have := (List.prefix_append_right_inj ((b :: bs).take (n + 1))).2 h2
      rwa [hsplit] at this
    · have := h4 hf
      have := congrArg List.length hsplit
      simp only [List.length_append] at this ⊢
      omega

theorem writeAllLoop_prefix (s : List WResp) (w bs : List Byte) :
    ∃ p, (writeAllLoop s w bs).1 = w ++ p ∧ p <+: bs ∧
      ((writeAllLoop s w bs).2.1 = true → p = bs) := by
  obtain ⟨p, h1, h2, h3, _⟩ := writeAllLoop_spec s w bs
  exact ⟨p, h1, h2, h3⟩

theorem writeAllLoop_fail_strict (s : List WResp) (w bs : List Byte)
    (hf : (writeAllLoop s w bs).2.1 = false) :
    (writeAllLoop s w bs).1.length < w.length + bs.length := by
  obtain ⟨p, h1, _, _, h4⟩ := writeAllLoop_spec s w bs
  rw [h1, List.length_append]
  have := h4 hf
  omega

/-- a failed `write_all` is the atomic transition with the fault at the first byte that was
not accepted. -/
theorem writeAllLoop_refines_fail (s : List WResp) (w bs : List Byte)
    (hf : (writeAllLoop s w bs).2.1 = false) :
    WriterSt.writeAll ⟨w, some (writeAllLoop s w bs).1.length⟩ bs =
      (⟨(writeAllLoop s w bs).1, some (writeAllLoop s w bs).1.length⟩, some .bufferFull) := by
  obtain ⟨p, h1, h2, _, h4⟩ := writeAllLoop_spec s w bs
  have hl := h4 hf
  obtain ⟨t, rfl⟩ := h2
  rw [h1]
  simp only [WriterSt.writeAll]
  rw [if_neg (by simp only [List.length_append] at hl ⊢; omega)]
  simp

/-- the atomic transition reproduces every schedule: there is a fault index (`none` on success,
the number of bytes accepted on failure) for which `WriterSt.writeAll` leaves the sink with the
same bytes and returns the same `Ok` / `Err`. -/
theorem writeAllLoop_refines (s : List WResp) (w bs : List Byte) :
    ∃ failAt : Option Nat,
      WriterSt.writeAll ⟨w, failAt⟩ bs =
        (⟨(writeAllLoop s w bs).1, failAt⟩,
          if (writeAllLoop s w bs).2.1 then none else some .bufferFull) := by
  cases hb : (writeAllLoop s w bs).2.1 with
  | true =>
    obtain ⟨p, h1, _, h3, _⟩ := writeAllLoop_spec s w bs
    exact ⟨none, by rw [h1, h3 hb]; rfl⟩
  | false => exact ⟨some _, writeAllLoop_refines_fail s w bs hb⟩

/-- `Interrupted` answers are invisible: deleting ALL of them from a schedule gives the same
accepted bytes, the same outcome, and the same unused answers up to the same deletion. -/
theorem writeAllLoop_interrupts_invisible (s : List WResp) (w bs : List Byte) :
    writeAllLoop (s.filter (fun r => !r.isInterrupted)) w bs =
      ((writeAllLoop s w bs).1, (writeAllLoop s w bs).2.1,
        (writeAllLoop s w bs).2.2.filter (fun r => !r.isInterrupted)) := by
  fun_induction writeAllLoop s w bs with
  | case1 => rw [writeAllLoop_nil_buf]  -- `bs = []`: no answer is used, before or after
  | case2 | case4 | case6 => rfl        -- schedule exhausted, `zero`, `fail`: the call ends here
  | case3 _ _ _ _ _ ih => exact ih      -- `accept n` survives the filter
  | case5 _ _ _ _ ih => exact ih        -- `interrupted`: dropped by the filter, skipped by the loop

theorem writeAllLoop_of_filter_eq (s s' : List WResp) (w bs : List Byte)
    (h : s.filter (fun r => !r.isInterrupted) = s'.filter (fun r => !r.isInterrupted)) :
    (writeAllLoop s w bs).1 = (writeAllLoop s' w bs).1 ∧
    (writeAllLoop s w bs).2.1 = (writeAllLoop s' w bs).2.1 := by
  have e := writeAllLoop_interrupts_invisible s w bs
  rw [h, writeAllLoop_interrupts_invisible s' w bs] at e
  exact ⟨(congrArg (·.1) e).symm, (congrArg (·.2.1) e).symm⟩

/-- With an empty `bs` the loop does not call `write` at all, so the unused `interrupted` stays
in the schedule: the equation is for the first two components. -/
theorem writeAllLoop_interrupted_cons (s : List WResp) (w bs : List Byte) :
    (writeAllLoop (.interrupted :: s) w bs).1 = (writeAllLoop s w bs).1 ∧
    (writeAllLoop (.interrupted :: s) w bs).2.1 = (writeAllLoop s w bs).2.1 :=
  writeAllLoop_of_filter_eq _ _ w bs rfl

theorem writeAllLoop_interrupted_cons_ne (s : List WResp) (w : List Byte) (b : Byte)
    (bs : List Byte) :
    writeAllLoop (.interrupted :: s) w (b :: bs) = writeAllLoop s w (b :: bs) := rfl

theorem readExactLoop_zero (s : List RResp) (st : List Byte) :
    readExactLoop s st 0 = (some [], st, s) := by
  rw [readExactLoop]

/-- The reader's future has lost its first `c ≤ n` bytes; the call succeeds iff `c = n`. -/
theorem readExactLoop_spec (s : List RResp) (st : List Byte) (n : Nat) :
    ∃ c, c ≤ n ∧ c ≤ st.length ∧ (readExactLoop s st n).2.1 = st.drop c ∧
      (readExactLoop s st n).1 = if c = n then some (st.take n) else none := by
  fun_induction readExactLoop s st n with
  -- `n = 0`, schedule exhausted, `fail`, `deliver` at the end of the stream: the call ends and
  -- nothing is delivered
  | case1 | case2 | case4 | case5 => exact ⟨0, by simp⟩
  | case3 _ _ _ ih => exact ih    -- `interrupted`
  | case6 s n k c cs m r ih =>    -- `deliver k` of `m` bytes of a non-empty stream
    have hmn : m ≤ n + 1 := Nat.le_trans (Nat.min_le_right ..) (Nat.min_le_left ..)
    have hml : m ≤ (c :: cs).length := Nat.le_trans (Nat.min_le_right ..) (Nat.min_le_right ..)
    clear_value m
    obtain ⟨c', h1, h2, h3, h4⟩ := ih
    rw [List.length_drop] at h2
    refine ⟨m + c', Nat.add_le_of_le_sub' hmn h1, Nat.add_le_of_le_sub' hml h2,
      h3.trans (List.drop_drop ..), ?_⟩
    show r.1.map _ = _
    rw [show r.1 = _ from h4]
    by_cases hc : c' = n + 1 - m
    · rw [if_pos hc, hc, Nat.add_sub_cancel' hmn, if_pos rfl, Option.map_some, ← List.take_add,
        Nat.add_sub_cancel' hmn]
    · rw [if_neg hc, if_neg (fun h => hc (Nat.eq_sub_of_add_eq' h)), Option.map_none]

theorem readExactLoop_prefix (s : List RResp) (st : List Byte) (n : Nat) :
    (∀ bs, (readExactLoop s st n).1 = some bs →
      n ≤ st.length ∧ bs = st.take n ∧ (readExactLoop s st n).2.1 = st.drop n) ∧
    ((readExactLoop s st n).1 = none →
      ∃ c, c < n ∧ c ≤ st.length ∧ (readExactLoop s st n).2.1 = st.drop c) := by
  obtain ⟨c, h1, h2, h3, h4⟩ := readExactLoop_spec s st n
  rw [h4, h3]
  by_cases hc : c = n
  · subst hc
    rw [if_pos rfl]
    exact ⟨fun bs hbs => ⟨h2, (Option.some.inj hbs).symm, rfl⟩, fun hn => nomatch hn⟩
  · rw [if_neg hc]
    exact ⟨fun bs hbs => (nomatch hbs), fun _ => ⟨c, by omega, h2, rfl⟩⟩

theorem readExactLoop_some {s s' : List RResp} {st bs rest : List Byte} {n : Nat}
    (h : readExactLoop s st n = (some bs, rest, s')) :
    n ≤ st.length ∧ bs = st.take n ∧ rest = st.drop n := by
  have := (readExactLoop_prefix s st n).1 bs (by rw [h])
  rwa [h] at this

/-- the atomic transition reproduces every schedule: there is a fault configuration (`none` on
success; on failure the absolute index `delivered + c` of the first byte that was not delivered,
`c < n`) for which `readExact` returns the same buffer and the same remaining stream, or the
same failure (every reader error is `DeserializeUnexpectedEnd`; the state after a failed
`read_exact` is dropped by the model, see `IOReader`). -/
theorem readExactLoop_refines (s : List RResp) (st : IOReaderSt) (n : Nat) :
    ∃ fault : Option Nat,
      ({ st with fault := fault }).readExact n =
        match (readExactLoop s st.stream n).1 with
        | some bs => .ok (bs, { st with fault := fault,
                                        stream := (readExactLoop s st.stream n).2.1,
                                        delivered := st.delivered + n })
        | none => .error .unexpectedEnd := by
  obtain ⟨c, h1, h2, h3, h4⟩ := readExactLoop_spec s st.stream n
  rw [h4, h3]
  by_cases hc : c = n
  · subst hc
    refine ⟨none, ?_⟩
    simp only [if_pos, IOReaderSt.readExact, faultOk, or_true]
    rw [if_neg (by omega)]
  · refine ⟨some (st.delivered + c), ?_⟩
    have hno : ¬ (n = 0 ∨ faultOk (some (st.delivered + c)) (st.delivered + n) = true) := by
      simp only [faultOk, decide_eq_true_eq]; omega
    simp only [if_neg hc, IOReaderSt.readExact, if_neg hno]
    split <;> rfl

/-- on success the reader's own `fault` will do, as long as it lies beyond the bytes read. -/
theorem readExactLoop_refines_ok (s : List RResp) (st : IOReaderSt) (n : Nat) (bs : List Byte)
    (hok : (readExactLoop s st.stream n).1 = some bs)
    (hf : faultOk st.fault (st.delivered + n) = true) :
    st.readExact n =
      .ok (bs, { st with stream := (readExactLoop s st.stream n).2.1,
                         delivered := st.delivered + n }) := by
  obtain ⟨hl, hb, hrest⟩ := (readExactLoop_prefix s st.stream n).1 bs hok
  simp only [IOReaderSt.readExact, hf, or_true, if_true]
  rw [if_neg (by omega), hrest, hb]

theorem readExactLoop_interrupts_invisible (s : List RResp) (st : List Byte) (n : Nat) :
    readExactLoop (s.filter (fun r => !r.isInterrupted)) st n =
      ((readExactLoop s st n).1, (readExactLoop s st n).2.1,
        (readExactLoop s st n).2.2.filter (fun r => !r.isInterrupted)) := by
  fun_induction readExactLoop s st n with
  | case1 => rw [readExactLoop_zero]  -- `n = 0`: no answer is used, before or after
  | case2 | case4 | case5 => rfl      -- schedule exhausted, `fail`, end of stream: the call ends
  | case3 _ _ _ ih => exact ih        -- `interrupted`: dropped by the filter, skipped by the loop
  | case6 s n k c cs m r ih =>        -- `deliver k` survives the filter
    show readExactLoop (.deliver k :: s.filter (fun r => !r.isInterrupted)) _ _ = _
    rw [readExactLoop, ih]

theorem readExactLoop_of_filter_eq (s s' : List RResp) (st : List Byte) (n : Nat)
    (h : s.filter (fun r => !r.isInterrupted) = s'.filter (fun r => !r.isInterrupted)) :
    (readExactLoop s st n).1 = (readExactLoop s' st n).1 ∧
    (readExactLoop s st n).2.1 = (readExactLoop s' st n).2.1 := by
  have e := readExactLoop_interrupts_invisible s st n
  rw [h, readExactLoop_interrupts_invisible s' st n] at e
  exact ⟨(congrArg (·.1) e).symm, (congrArg (·.2.1) e).symm⟩

theorem readExactLoop_interrupted_cons (s : List RResp) (st : List Byte) (n : Nat) :
    (readExactLoop (.interrupted :: s) st n).1 = (readExactLoop s st n).1 ∧
    (readExactLoop (.interrupted :: s) st n).2.1 = (readExactLoop s st n).2.1 :=
  readExactLoop_of_filter_eq _ _ st n rfl

theorem readExactLoop_interrupted_cons_succ (s : List RResp) (st : List Byte) (n : Nat) :
    readExactLoop (.interrupted :: s) st (n + 1) = readExactLoop s st (n + 1) := rfl

/-- `write_all(bs)` as a flavour call: the flavour state is (what the sink has
accepted, the answers it has not given yet). -/
def schedWriteAll (s : List Byte × List WResp) (bs : List Byte) :
    (List Byte × List WResp) × Option Err :=
  let r := writeAllLoop s.2 s.1 bs
  ((r.1, r.2.2), if r.2.1 then none else some .bufferFull)

/-- `WriteFlavor` (cf. `WriteFl`) with `write_all` implemented by the std loop
over the sink's schedule of answers; `flush` succeeds. -/
def WriteFlSched : Flavor (List Byte × List WResp) (List Byte) where
  tryPush s b := schedWriteAll s [b]
  tryExtend s bs := schedWriteAll s bs
  finalize s := (s, .ok s.1)
  setAt _ _ _ := none

theorem WriteFlSched.step_eq (s : List Byte × List WResp) (c : Chunk) :
    WriteFlSched.step s c = schedWriteAll s c.bytes := by
  cases c <;> rfl

theorem WriteFlSched.feed_spec (cs : List Chunk) (w : List Byte) (sched : List WResp) :
    ∃ p, (WriteFlSched.feed (w, sched) cs).1.1 = w ++ p ∧ p <+: chunkBytes cs ∧
      (((WriteFlSched.feed (w, sched) cs).2 = none ∧ p = chunkBytes cs) ∨
       ((WriteFlSched.feed (w, sched) cs).2 = some .bufferFull ∧
          p.length < (chunkBytes cs).length)) := by
  induction cs generalizing w sched with
  | nil => exact ⟨[], by simp [Flavor.feed]⟩
  | cons c cs ih =>
    obtain ⟨q, h1, h2, h3, h4⟩ := writeAllLoop_spec sched w c.bytes
    rw [chunkBytes_cons]
    cases hb : (writeAllLoop sched w c.bytes).2.1 with
    | false =>
      simp only [Flavor.feed, WriteFlSched.step_eq, schedWriteAll, hb, Bool.false_eq_true,
        ↓reduceIte]
      have := h4 hb
      exact ⟨q, h1, h2.trans (List.prefix_append _ _),
        .inr ⟨trivial, by simp only [List.length_append]; omega⟩⟩
    | true =>
      simp only [Flavor.feed, WriteFlSched.step_eq, schedWriteAll, hb, ↓reduceIte, h1, h3 hb]
      obtain ⟨p, g1, g2, g3⟩ := ih (w ++ c.bytes) (writeAllLoop sched w c.bytes).2.2
      exact ⟨c.bytes ++ p, by rw [g1, List.append_assoc], (List.prefix_append_right_inj _).2 g2,
        g3.imp (fun ⟨e, hp⟩ => ⟨e, by rw [hp]⟩)
          (fun ⟨e, hp⟩ => ⟨e, by simp only [List.length_append]; omega⟩)⟩

theorem serializeWith_sched (v : Val) (w : List Byte) (sched : List WResp) :
    ∃ p, (serializeWith WriteFlSched (w, sched) v).1.1 = w ++ p ∧ p <+: enc v ∧
      (((serializeWith WriteFlSched (w, sched) v).2 = .ok (w ++ p) ∧ p = enc v) ∨
       ((serializeWith WriteFlSched (w, sched) v).2 = .error .bufferFull ∧
          p.length < (enc v).length)) := by
  obtain ⟨p, h1, h2, h3⟩ := WriteFlSched.feed_spec (emit v) w sched
  rw [chunkBytes_emit] at h2 h3
  refine ⟨p, ?_⟩
  -- `flush` of the scheduled writer succeeds: the result is read off the feed
  unfold serializeWith
  rcases h3 with ⟨he, hp⟩ | ⟨he, hp⟩
  · rw [show WriteFlSched.feed (w, sched) (emit v) = (_, none) from Prod.ext rfl he]
    exact ⟨h1, h2, .inl ⟨congrArg Except.ok h1, hp⟩⟩
  · rw [show WriteFlSched.feed (w, sched) (emit v) = (_, some .bufferFull) from Prod.ext rfl he]
    exact ⟨h1, h2, .inr ⟨rfl, hp⟩⟩

/-- `to_io` through a writer whose `write_all` is the std loop over an
ARBITRARY schedule of partial writes, `Interrupted`s, `Ok(0)`s and errors:
either `Ok` and the sink holds exactly `enc v`, or `SerializeBufferFull` and the
sink holds a strict prefix of `enc v`. -/
theorem to_io_any_schedule (v : Val) (sched : List WResp) :
    ((serializeWith WriteFlSched ([], sched) v).2 = .ok (enc v) ∧
      (serializeWith WriteFlSched ([], sched) v).1.1 = enc v) ∨
    ((serializeWith WriteFlSched ([], sched) v).2 = .error .bufferFull ∧
      (serializeWith WriteFlSched ([], sched) v).1.1 <+: enc v ∧
      (serializeWith WriteFlSched ([], sched) v).1.1.length < (enc v).length) := by
  obtain ⟨p, h1, h2, h3⟩ := serializeWith_sched v [] sched
  simp only [List.nil_append] at h1 h3
  rcases h3 with ⟨hr, hp⟩ | ⟨hr, hp⟩
  · subst hp
    exact Or.inl ⟨hr, h1⟩
  · exact Or.inr ⟨hr, h1 ▸ h2, h1 ▸ hp⟩

/-- the atomic `to_io` of Model/DeFlavor.lean reproduces every schedule:
there is a fault index for which `toIo` leaves the sink with the same bytes and
returns the same result.  Hence the writer theorems of Props/C11, which quantify
over `failAt`, speak about every schedule. -/
theorem to_io_sched_refines (v : Val) (w : List Byte) (sched : List WResp) :
    ∃ failAt : Option Nat,
      toIo v ⟨w, failAt⟩ =
        (⟨(serializeWith WriteFlSched (w, sched) v).1.1, failAt⟩,
          (serializeWith WriteFlSched (w, sched) v).2) := by
  obtain ⟨p, h1, h2, h3⟩ := serializeWith_sched v w sched
  rcases h3 with ⟨hr, hp⟩ | ⟨hr, hp⟩
  · subst hp
    exact ⟨none, by rw [h1, hr, writer_bytes_gen]⟩
  · obtain ⟨t, ht⟩ := h2
    rw [← ht] at hp
    refine ⟨some (w.length + p.length), ?_⟩
    rw [h1, hr]
    refine (serializeWith_writeFlF true v ⟨w, _⟩
      (fun _ hk => by cases hk; exact Nat.le_add_right ..)).trans ?_
    simp only [WriterSt.writeAll, ← ht, if_neg (Nat.not_le.2 (Nat.add_lt_add_left hp _)),
      Nat.add_sub_cancel_left, List.take_left]

/-- the reader flavour's state with the reader's schedule of answers in place of
the fault index (`slots` / `delivered` bookkeeping is not repeated here). -/
structure SchedReaderSt where
  stream : List Byte
  sched : List RResp
  scratchCap : Nat
  scratchUsed : Nat

/-- `IOReader` / `EIOReader` (cf. `IOReader`) with `read_exact` implemented by the
std loop over the reader's schedule.  `pop` is `let mut val = [0; 1];
read_exact(&mut val)?; Ok(val[0])`. -/
def IOReaderSched : DeFlavor SchedReaderSt where
  pop st :=
    match readExactLoop st.sched st.stream 1 with
    | (some bs, rest, s') => .ok (bs.headD 0, { st with stream := rest, sched := s' })
    | (none, _, _) => .error .unexpectedEnd
  tryTakeN st ct :=
    if st.scratchCap - st.scratchUsed < ct then .error .unexpectedEnd     -- SlidingBuffer::take_n
    else match readExactLoop st.sched st.stream ct with
      | (some bs, rest, s') =>
        .ok (bs, { st with stream := rest, sched := s', scratchUsed := st.scratchUsed + ct })
      | (none, _, _) => .error .unexpectedEnd
  sizeHint st := some (st.scratchCap - st.scratchUsed)

theorem IOReaderSched.sim : Sim IOReaderSched SchedReaderSt.stream (fun _ => True) True := by
  refine .of_cases (fun st _ => ?_) fun st n _ => ?_
  · rcases hr : readExactLoop st.sched st.stream 1 with ⟨_ | bs, rest, s'⟩
    · simp only [IOReaderSched, hr, or_true, and_self]
    · obtain ⟨hl, rfl, rfl⟩ := readExactLoop_some hr
      simp only [IOReaderSched, hr, and_true]
      cases hs : st.stream with
      | nil => rw [hs] at hl; cases hl
      | cons c cs => rfl
  · by_cases hc : st.scratchCap - st.scratchUsed < n
    · simp only [IOReaderSched, if_pos hc, or_true, and_self]
    · rcases hr : readExactLoop st.sched st.stream n with ⟨_ | bs, rest, s'⟩
      · simp only [IOReaderSched, if_neg hc, hr, or_true, and_self]
      · obtain ⟨hl, rfl, rfl⟩ := readExactLoop_some hr
        simp only [IOReaderSched, if_neg hc, hr, and_true]
        exact ⟨(List.take_append_drop n _).symm, List.length_take_of_le hl⟩

/-- `from_io` through a reader whose `read_exact` is the std loop over
an ARBITRARY schedule of short reads, `Interrupted`s and errors, with any
scratch buffer: on success the value is the slice decoder's value on the
reader's bytes and the reader is left exactly at the slice decoder's remainder
(never over-reads); on failure the error is the slice decoder's error or
`DeserializeUnexpectedEnd` — never a panic. -/
theorem from_io_any_schedule (t : Ty) (st : SchedReaderSt) :
    match decG IOReaderSched t st with
    | .ok (v, st') => dec t st.stream = .ok (v, st'.stream)
    | .error e => (dec t st.stream = .error e ∨ e = .unexpectedEnd) ∧ e ≠ .panic := by
  have hs := decG_agrees IOReaderSched.sim t st trivial
  cases hr : decG IOReaderSched t st with
  | ok p =>
    obtain ⟨v, st'⟩ := p
    rw [hr] at hs
    exact hs.1
  | error e =>
    rw [hr] at hs
    rcases hs with hd | ⟨_, rfl⟩
    · exact ⟨.inl hd, fun he => dec_total _ _ (he ▸ hd)⟩
    · exact ⟨.inr rfl, by simp⟩

namespace C11Sched

-- `accept 0` takes 1 byte, the `Interrupted` is retried, `accept 2` takes 3, then `Ok(0)`:
-- `write_all` fails with 4 of the 5 bytes accepted
example : writeAllLoop [.accept 0, .interrupted, .accept 2, .zero] [9] [1, 2, 3, 4, 5]
    = ([9, 1, 2, 3, 4], false, []) := by decide +kernel
-- … which the atomic model reproduces with the fault index 1 + 4
example : WriterSt.writeAll ⟨[9], some 5⟩ [1, 2, 3, 4, 5]
    = (⟨[9, 1, 2, 3, 4], some 5⟩, some .bufferFull) := by rfl
-- all-accept schedules succeed; an over-long `accept` is clipped to the buffer; unused answers
-- remain
example : writeAllLoop [.accept 1, .accept 0, .accept 7, .fail] [] [1, 2, 3, 4, 5]
    = ([1, 2, 3, 4, 5], true, [.fail]) := by decide +kernel
example : writeAllLoop [.interrupted, .interrupted, .interrupted, .accept 4] [] [1, 2, 3, 4, 5]
    = ([1, 2, 3, 4, 5], true, []) := by decide +kernel
-- only `Interrupted`s: the schedule runs out (= hard error), nothing accepted
example : writeAllLoop [.interrupted, .interrupted] [] [1, 2] = ([], false, []) := by decide +kernel
-- an empty block never calls `write`
example : writeAllLoop [.fail] [7] [] = ([7], true, [.fail]) := by decide +kernel
-- an error at the block boundary is NOT seen by this call (it has returned already)
example : writeAllLoop [.accept 1, .fail] [] [1, 2] = ([1, 2], true, [.fail]) := by decide +kernel

-- reader: short reads, a retried `Interrupted`, clipped to what is wanted
example : readExactLoop [.deliver 0, .interrupted, .deliver 9, .fail] [1, 2, 3, 4, 5] 3
    = (some [1, 2, 3], [4, 5], [.fail]) := by decide +kernel
-- end of stream inside the block: `Ok(0)` → `UnexpectedEof`, the 2 bytes are consumed
example : readExactLoop [.deliver 5, .deliver 0] [1, 2] 3 = (none, [], []) := by decide +kernel
-- … the atomic model fails too (end of stream), with or without a fault index
example : IOReaderSt.readExact ⟨[1, 2], none, 0, 9, 0, []⟩ 3 = .error .unexpectedEnd := by rfl
-- an I/O error after one byte; the atomic model reproduces it with `fault = some (0 + 1)`
example : readExactLoop [.deliver 0, .fail] [1, 2, 3, 4] 3 = (none, [2, 3, 4], []) := by
  decide +kernel
example : IOReaderSt.readExact ⟨[1, 2, 3, 4], some 1, 0, 9, 0, []⟩ 3 = .error .unexpectedEnd := by
  rfl
-- `read_exact(&mut [])` never calls `read`
example : readExactLoop [.fail] [1] 0 = (some [], [1], [.fail]) := by decide +kernel

-- `to_io` one byte at a time, with an `Interrupted` before every write
example : serializeWith WriteFlSched
    ([], (List.replicate 11 [WResp.interrupted, WResp.accept 0]).flatten) C11.exV
    = ((C11.exMsg, []), .ok C11.exMsg) := by rfl
-- `to_io` with a sink that answers `Ok(0)` after 5 bytes: cf. `toIo exV ⟨[], some 5⟩` in Props/C11
example : serializeWith WriteFlSched
    ([], [.accept 9, .accept 0, .interrupted, .accept 0, .accept 1, .zero]) C11.exV
    = (([2, 0x68, 0x69, 0, 0], []), .error .bufferFull) := by rfl

-- `from_io` with one-byte reads and an `Interrupted` before each; two trailing bytes stay on the
-- reader
example : (decG IOReaderSched C11.exT
      ⟨C11.exMsg ++ [9, 9], (List.replicate 11 [RResp.interrupted, RResp.deliver 0]).flatten, 9,
        0⟩).map
        (fun r => (r.1, r.2.stream, r.2.sched, r.2.scratchUsed))
    = .ok (C11.exV, [9, 9], [], 9) := by rfl
example : (decG IOReaderSched C11.exT
      ⟨C11.exMsg ++ [9, 9], [.deliver 0, .deliver 9, .fail], 9, 0⟩).map
        (fun r => r.1) = .error .unexpectedEnd := by rfl

end C11Sched

end Postcard
