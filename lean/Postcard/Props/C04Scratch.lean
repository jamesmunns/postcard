import Postcard.Lemmas.SlidingBuffer
/-
  C04 / C11, reader-based decoding: "never writes outside the supplied scratch buffer ... borrowed
  data placed in disjoint parts of the caller's scratch buffer and the unused scratch returned" —
  for EVERY history of `try_take_n` calls on one flavour object, whatever mixture of successes,
  scratch-exhaustion failures and reader faults (so also for a `Deserializer::from_flavor` that
  is used again after a value failed).
-/
namespace Postcard

def SBuf.Inv (s : SBuf) : Prop := s.cursor ≤ s.cap ∧ slotsBelow s.slots 0 s.cursor

theorem SBuf.inv_new (cap : Nat) : (SBuf.new cap).Inv := ⟨Nat.zero_le _, Nat.le_refl _⟩

theorem SBuf.inv_step (s : SBuf) (ct : Nat) (ok : Bool) (h : s.Inv) : (s.tryTakeN ct ok).1.Inv := by
  unfold SBuf.tryTakeN
  split
  · exact h
  · next hfit => exact ⟨Nat.add_le_of_le_sub' h.1 (Nat.not_lt.1 hfit), slotsBelow_append ct h.2⟩

theorem SBuf.inv_run : ∀ (ops : List (Nat × Bool)) (s : SBuf), s.Inv → (s.run ops).Inv
  | [], _, h => h
  | (ct, ok) :: rest, s, h => SBuf.inv_run rest _ (SBuf.inv_step s ct ok h)

/-- From a fresh `SlidingBuffer` over a scratch buffer of `cap` bytes, after ANY sequence of
`try_take_n` calls:
* every slot ever carved off — handed to the caller or abandoned after a reader fault — lies
  inside the scratch buffer (so no write lands outside it),
* the slots are pairwise disjoint and in increasing order (no borrowed `&str` / `&[u8]` is ever
  overwritten by a later take),
* the region `complete()` hands back lies inside the buffer and starts at or after the end of
  every slot. -/
theorem scratch_history_safe (cap : Nat) (ops : List (Nat × Bool)) :
    let s := (SBuf.new cap).run ops
    (∀ sl ∈ s.slots, sl.1 + sl.2 ≤ cap) ∧
    s.slots.Pairwise (fun a b => a.1 + a.2 ≤ b.1) ∧
    (s.complete.1 + s.complete.2 = cap ∧ ∀ sl ∈ s.slots, sl.1 + sl.2 ≤ s.complete.1) := by
  intro s
  have hcap : s.cap = cap := SBuf.cap_run ops _
  obtain ⟨hc, hs⟩ : s.Inv := SBuf.inv_run ops _ (SBuf.inv_new cap)
  rw [hcap] at hc
  refine ⟨fun sl hm => Nat.le_trans (slotsBelow_mem hs sl hm).2 hc,
    slotsBelow_pairwise hs, ?_, fun sl hm => (slotsBelow_mem hs sl hm).2⟩
  simp only [SBuf.complete, hcap]
  omega

/-- a refused `take_n` claims nothing -/
theorem take_refused_unchanged (s : SBuf) (ct : Nat) (ok : Bool) (h : s.cap - s.cursor < ct) :
    s.tryTakeN ct ok = (s, none) := by simp [SBuf.tryTakeN, h]

/-- a take whose read fails keeps its slot: it is never handed out again -/
theorem take_read_failed_keeps_slot (s : SBuf) (ct : Nat) (h : ¬ s.cap - s.cursor < ct) :
    (s.tryTakeN ct false).1.cursor = s.cursor + ct ∧ (s.tryTakeN ct false).2 = none := by
  simp [SBuf.tryTakeN, h]

/-- the seeded "hand the slot back on any error" variant (C04-e) is NOT safe: after a refused
take of `ct` bytes its cursor has moved BACK, so the next take overlaps an earlier slot.  Concrete
history, checked by evaluation: cap 8, take 6 (ok), take 5 (refused; cursor 6 → 1), take 4 →
slot (1,4) overlaps (0,6). -/
def SBuf.tryTakeNUnclaim (s : SBuf) (ct : Nat) (readOk : Bool) : SBuf × Option (Nat × Nat) :=
  if s.cap - s.cursor < ct then ({ s with cursor := s.cursor - ct }, none)
  else
    let s' : SBuf := { s with cursor := s.cursor + ct, slots := s.slots ++ [(s.cursor, ct)] }
    if readOk then (s', some (s.cursor, ct)) else ({ s' with cursor := s.cursor }, none)

example :
    let s1 := ((SBuf.new 8).tryTakeNUnclaim 6 true).1
    let s2 := (s1.tryTakeNUnclaim 5 true).1
    let s3 := (s2.tryTakeNUnclaim 4 true).1
    s3.slots = [(0, 6), (1, 4)] := by decide +kernel

-- a success, a refusal, a reader fault, another success
example : ((SBuf.new 10).run [(4, true), (9, true), (3, false), (2, true)]).slots =
    [(0, 4), (4, 3), (7, 2)] := by decide +kernel

end Postcard
