import Postcard.Lemmas.Stack
import Postcard.Props.C01
import Postcard.Props.C05
import Postcard.Props.C06
import Postcard.Props.C10
/-
  C20: stacked flavours compose as byte-stream transformers.  Rust:
  `serialize_with_flavor(value, CrcModifier::new(Cobs::try_new(storage)?, digest))`
  (the modifiers: source/postcard/src/ser/flavors.rs; the crate's tests never stack two); model:
  `CrcSer alg n (Cobs F)` started at `((Cobs.tryNew F s0).1, alg.init)`.  The transformer computed
  by a flavour `G` is `G.runBytes` (Lemmas/Stack.lean): push the bytes one by one, then `finalize`.
-/
namespace Postcard
open Spec

/-- C20, the CRC modifier over ANY inner flavour `G` (a storage, another modifier, a user
flavour): `try_extend(bs)`, and likewise a whole call sequence `cs`, is determined by pushing
the bytes one by one into `G`: same final `G`-state, same outcome; on success the digest has
absorbed all the bytes, on failure a prefix of them.  `finalize` pushes the checksum bytes
byte-wise into `G`, then `G.finalize`. -/
theorem crcSer_over_any {σ ω : Type} {w : Nat} (alg : CrcAlg w) (n : Nat) (G : Flavor σ ω)
    (g : σ) (d : BitVec w) :
    (∀ (bs : List Byte) (g' : σ),
      (defaultExtend G.tryPush g bs = (g', none) →
        defaultExtend (CrcSer alg n G).tryPush (g, d) bs = ((g', crcState alg d bs), none)) ∧
      (∀ e, defaultExtend G.tryPush g bs = (g', some e) →
        ∃ p, p <+: bs ∧
          defaultExtend (CrcSer alg n G).tryPush (g, d) bs = ((g', crcState alg d p), some e))) ∧
    (∀ (cs : List Chunk),
      (CrcSer alg n G).feed (g, d) cs
        = defaultExtend (CrcSer alg n G).tryPush (g, d) (chunkBytes cs)) ∧
    (∀ (cs : List Chunk) (g' : σ),
      (defaultExtend G.tryPush g (chunkBytes cs) = (g', none) →
        (CrcSer alg n G).feed (g, d) cs = ((g', crcState alg d (chunkBytes cs)), none)) ∧
      (∀ e, defaultExtend G.tryPush g (chunkBytes cs) = (g', some e) →
        ∃ p, p <+: chunkBytes cs ∧
          (CrcSer alg n G).feed (g, d) cs = ((g', crcState alg d p), some e))) ∧
    (CrcSer alg n G).finalize (g, d) =
      (match defaultExtend G.tryPush g (leBytes n (crcFinal alg d).toNat) with
       | (g', some e) => ((g', d), .error e)
       | (g', none) => (((G.finalize g').1, d), (G.finalize g').2)) := by
  have hfeed := Flavor.feed_defaultExtend (CrcSer alg n G) (crcSer_tryExtend alg n G) (g, d)
  refine ⟨?key, hfeed, fun cs => hfeed cs ▸ ?key (chunkBytes cs),
    crcSer_finalize_def alg n G g d⟩
  intro bs g'
  obtain ⟨p, hpre, hp, he⟩ := crcSer_defaultExtend alg n G bs g d
  exact ⟨fun h => by rw [he, h, hp (by rw [h])], fun e h => ⟨p, hpre, by rw [he, h]⟩⟩

theorem crc_over_lawful {σ : Type} {w : Nat} {F : Flavor σ (List Byte)} (L : LawfulIdx F)
    (alg : CrcAlg w) (n : Nat) (s0 : σ) (v : Val) (hroom : L.room s0 ((enc v).length + n)) :
    (serializeWith (CrcSer alg n F) (s0, alg.init) v).2
      = .ok (L.log s0 ++ crcFramed alg n (enc v)) := by
  rw [(stack_composes alg n F s0 v).2]
  exact L.runBytes_ok s0 _ (by rw [crcFramed_length]; exact hroom)

/-- C20 (one layer, CRC): over `AllocVec`, `HVec` and `Slice` with room, the output is
`enc v ++ checksum(enc v)`. -/
theorem crc_over {w : Nat} (alg : CrcAlg w) (n : Nat) (v : Val) :
    (serializeWith (CrcSer alg n AllocVec) ([], alg.init) v).2
      = .ok (enc v ++ leBytes n (crc alg (enc v)).toNat) ∧
    (∀ cap, (enc v).length + n ≤ cap →
      (serializeWith (CrcSer alg n HVec) (⟨cap, []⟩, alg.init) v).2
        = .ok (enc v ++ leBytes n (crc alg (enc v)).toNat)) ∧
    (∀ buf : List Byte, (enc v).length + n ≤ buf.length →
      (serializeWith (CrcSer alg n Slice) (⟨buf, 0⟩, alg.init) v).2
        = .ok (enc v ++ leBytes n (crc alg (enc v)).toNat)) :=
  ⟨crc_over_lawful LawfulIdx.allocVec alg n [] v trivial,
    fun cap h => crc_over_lawful LawfulIdx.hvec alg n ⟨cap, []⟩ v (LawfulIdx.hvec_room h),
    fun buf h => crc_over_lawful LawfulIdx.slice alg n ⟨buf, 0⟩ v
      (LawfulIdx.slice_room h)⟩

theorem cobs_over_lawful {σ : Type} {F : Flavor σ (List Byte)} (L : LawfulIdx F) (s0 : σ)
    (v : Val) (h0 : L.log s0 = []) (hroom : L.room s0 ((cobsEncode (enc v)).length + 1)) :
    ∃ st1, Cobs.tryNew F s0 = (st1, none) ∧
      (serializeWith (Cobs F) st1 v).2 = .ok (cobsEncode (enc v) ++ [0]) := by
  obtain ⟨st1, h1, h2⟩ := cobs_runBytes L s0 (enc v) h0 hroom
  exact ⟨st1, h1, by rw [plain_composes (Cobs F) (cobs_tryExtend F), h2]⟩

/-- C20 (one layer, COBS): `Cobs::try_new(storage)` succeeds and the output is
the COBS frame of the plain encoding, for the three storages. -/
theorem cobs_over (v : Val) :
    (∃ st1, Cobs.tryNew AllocVec [] = (st1, none) ∧
      (serializeWith (Cobs AllocVec) st1 v).2 = .ok (cobsEncode (enc v) ++ [0])) ∧
    (∀ cap, (cobsEncode (enc v)).length + 1 ≤ cap →
      ∃ st1, Cobs.tryNew HVec ⟨cap, []⟩ = (st1, none) ∧
        (serializeWith (Cobs HVec) st1 v).2 = .ok (cobsEncode (enc v) ++ [0])) ∧
    (∀ buf : List Byte, (cobsEncode (enc v)).length + 1 ≤ buf.length →
      ∃ st1, Cobs.tryNew Slice ⟨buf, 0⟩ = (st1, none) ∧
        (serializeWith (Cobs Slice) st1 v).2 = .ok (cobsEncode (enc v) ++ [0])) :=
  ⟨cobs_over_lawful LawfulIdx.allocVec [] v rfl trivial,
    fun cap h => cobs_over_lawful LawfulIdx.hvec ⟨cap, []⟩ v rfl (LawfulIdx.hvec_room h),
    fun buf h => cobs_over_lawful LawfulIdx.slice ⟨buf, 0⟩ v rfl
      (LawfulIdx.slice_room h)⟩

theorem crc_then_cobs_run {σ : Type} {w : Nat} {F : Flavor σ (List Byte)} (L : LawfulIdx F)
    (alg : CrcAlg w) (n : Nat) (s0 : σ) (v : Val) (h0 : L.log s0 = [])
    (hroom : L.room s0 ((cobsEncode (crcFramed alg n (enc v))).length + 1)) :
    ∃ st1, Cobs.tryNew F s0 = (st1, none) ∧
      (serializeWith (CrcSer alg n (Cobs F)) (st1, alg.init) v).2
        = .ok (cobsEncode (crcFramed alg n (enc v)) ++ [0]) := by
  obtain ⟨st1, h1, h2⟩ := cobs_runBytes L s0 (crcFramed alg n (enc v)) h0 hroom
  exact ⟨st1, h1, by rw [(stack_composes alg n (Cobs F) st1 v).2]; exact h2⟩

/-- C20 (headline).  `F` any storage satisfying the contract `LawfulIdx`,
started empty with room for the frame.  If `Cobs::try_new(storage)` returned
`Ok(cobs)`, then
`serialize_with_flavor(v, CrcModifier::new(cobs, digest))` returns the COBS
frame of (plain bytes followed by their checksum) — whatever the innermost
storage is. -/
theorem crc_then_cobs {σ : Type} {w : Nat} {F : Flavor σ (List Byte)} (L : LawfulIdx F)
    (alg : CrcAlg w) (n : Nat) (s0 : σ) (v : Val) (h0 : L.log s0 = [])
    (hroom : L.room s0
      ((cobsEncode (enc v ++ leBytes n (crc alg (enc v)).toNat)).length + 1))
    (st1 : σ × EncSt) (hnew : Cobs.tryNew F s0 = (st1, none)) :
    (serializeWith (CrcSer alg n (Cobs F)) (st1, alg.init) v).2
      = .ok (cobsEncode (enc v ++ leBytes n (crc alg (enc v)).toNat) ++ [0]) := by
  obtain ⟨_, h1, h2⟩ := crc_then_cobs_run L alg n s0 v h0 hroom
  cases hnew.symm.trans h1
  exact h2

/-- C20: the stack's output is the COBS transformer (`cobs_over`) applied to the CRC
transformer's output (`crc_over`). -/
theorem crc_then_cobs_eq_composition {w : Nat} (alg : CrcAlg w) (n : Nat) (v : Val) :
    ∀ out, (serializeWith (CrcSer alg n AllocVec) ([], alg.init) v).2 = .ok out →
      (serializeWith (CrcSer alg n (Cobs AllocVec)) ((Cobs.tryNew AllocVec []).1, alg.init) v).2
        = .ok (cobsEncode out ++ [0]) := by
  intro out h
  cases (crc_over alg n v).1.symm.trans h
  exact crc_then_cobs LawfulIdx.allocVec alg n [] v rfl trivial _ rfl

/-- innermost storage `AllocVec` (`to_allocvec_cobs`-style): never fails. -/
theorem crc_then_cobs_alloc {w : Nat} (alg : CrcAlg w) (n : Nat) (v : Val) :
    (Cobs.tryNew AllocVec []).2 = none ∧
    (serializeWith (CrcSer alg n (Cobs AllocVec)) ((Cobs.tryNew AllocVec []).1, alg.init) v).2
      = .ok (cobsEncode (enc v ++ leBytes n (crc alg (enc v)).toNat) ++ [0]) :=
  ⟨rfl, crc_then_cobs LawfulIdx.allocVec alg n [] v rfl trivial _ rfl⟩

theorem crc_then_cobs_hvec {w : Nat} (alg : CrcAlg w) (n : Nat) (cap : Nat) (v : Val)
    (hcap : (cobsEncode (enc v ++ leBytes n (crc alg (enc v)).toNat)).length + 1 ≤ cap) :
    ∃ st1, Cobs.tryNew HVec ⟨cap, []⟩ = (st1, none) ∧
      (serializeWith (CrcSer alg n (Cobs HVec)) (st1, alg.init) v).2
        = .ok (cobsEncode (enc v ++ leBytes n (crc alg (enc v)).toNat) ++ [0]) :=
  crc_then_cobs_run LawfulIdx.hvec alg n ⟨cap, []⟩ v rfl (LawfulIdx.hvec_room hcap)

theorem crc_then_cobs_slice {w : Nat} (alg : CrcAlg w) (n : Nat) (buf : List Byte) (v : Val)
    (hcap : (cobsEncode (crcFramed alg n (enc v))).length + 1 ≤ buf.length) :
    ∃ st1, Cobs.tryNew Slice ⟨buf, 0⟩ = (st1, none) ∧
      (serializeWith (CrcSer alg n (Cobs Slice)) (st1, alg.init) v).2
        = .ok (cobsEncode (crcFramed alg n (enc v)) ++ [0]) :=
  crc_then_cobs_run LawfulIdx.slice alg n ⟨buf, 0⟩ v rfl (LawfulIdx.slice_room hcap)

/-- with `k = |enc v|`, `k + n + (k + n) / 254 + 2` bytes always suffice: COBS worst-case
overhead on top of the checksum. -/
theorem crc_then_cobs_slice_bound {w : Nat} (alg : CrcAlg w) (n : Nat) (buf : List Byte) (v : Val)
    (hcap : (enc v).length + n + ((enc v).length + n) / 254 + 2 ≤ buf.length) :
    ∃ st1, Cobs.tryNew Slice ⟨buf, 0⟩ = (st1, none) ∧
      (serializeWith (CrcSer alg n (Cobs Slice)) (st1, alg.init) v).2
        = .ok (cobsEncode (enc v ++ leBytes n (crc alg (enc v)).toNat) ++ [0]) := by
  apply crc_then_cobs_slice
  have h := (frame_length (crcFramed alg n (enc v))).2.1
  rw [crcFramed_length] at h
  omega

/-- **C10 round trip, `decF := dec t`.**  A well-typed value, its plain
encoding followed by the little-endian checksum (what `to_slice_uN` /
`to_vec_uN` / `to_allocvec_uN` return, see `crc_over`), followed by
anything: `take_from_bytes_uN` returns the value and exactly what followed;
`from_bytes_uN` returns the value. -/
theorem crc_roundtrip_dec {w : Nat} (alg : CrcAlg w) (nbytes : Nat) (t : Ty) (v : Val)
    (hty : hasTy v t = true) (hfit : w ≤ nbytes * 8) (rest : List Byte) :
    takeFromBytesCrc alg nbytes (dec t) (enc v ++ leBytes nbytes (crc alg (enc v)).toNat ++ rest)
      = .ok (v, rest) ∧
    fromBytesCrc alg nbytes (dec t) (enc v ++ leBytes nbytes (crc alg (enc v)).toNat ++ rest)
      = .ok v :=
  ⟨crc_roundtrip alg nbytes (dec t) (enc v) rest v hfit (fun r => roundtrip v t hty r),
   crc_roundtrip_fromBytes alg nbytes (dec t) (enc v) rest v hfit (fun r => roundtrip v t hty r)⟩

/-- C20 (unstack).  A well-typed `v`, a checksum that fits its `n` bytes, the
stack's output `frame = cobsEncode (enc v ++ checksum) ++ [0]` followed by
anything: `from_bytes_cobs` (outer layer: cut at the first zero, COBS-decode)
composed with `from_bytes_uN` (inner layer: decode, check the checksum) returns
`v`; `take_from_bytes_cobs` additionally returns exactly what followed the
frame.  Layer by layer: COBS decoding of the body gives back
`enc v ++ checksum`, and CRC-checked decoding of that gives back `v`. -/
theorem unstack {w : Nat} (alg : CrcAlg w) (n : Nat) (v : Val) (t : Ty)
    (hty : hasTy v t = true) (hfit : w ≤ n * 8) (rest : List Byte) :
    (fromBytesCobs (fun p => fromBytesCrc alg n (dec t) p)
        (cobsEncode (enc v ++ leBytes n (crc alg (enc v)).toNat) ++ [0] ++ rest)).1 = .ok v ∧
    (takeFromBytesCobs (fun p => fromBytesCrc alg n (dec t) p)
        (cobsEncode (enc v ++ leBytes n (crc alg (enc v)).toNat) ++ [0] ++ rest)).1
      = .ok (v, rest) ∧
    cobsDecode (cobsEncode (enc v ++ leBytes n (crc alg (enc v)).toNat))
      = some (enc v ++ leBytes n (crc alg (enc v)).toNat) ∧
    takeFromBytesCrc alg n (dec t) (enc v ++ leBytes n (crc alg (enc v)).toNat) = .ok (v, []) := by
  have h := crc_roundtrip_dec alg n t v hty hfit []
  rw [List.append_nil] at h
  exact ⟨(cobs_frame_decodes _ _ rest v h.2).1, (cobs_frame_decodes _ _ rest v h.2).2,
    cobsDecode_encode _, h.1⟩

/-- C20 (end to end): whatever the stack returned over a lawful storage,
followed by anything, is undone layer by layer to the value. -/
theorem stack_roundtrip {σ : Type} {w : Nat} {F : Flavor σ (List Byte)} (L : LawfulIdx F)
    (alg : CrcAlg w) (n : Nat) (s0 : σ) (v : Val) (t : Ty) (hty : hasTy v t = true)
    (hfit : w ≤ n * 8) (h0 : L.log s0 = [])
    (hroom : L.room s0
      ((cobsEncode (enc v ++ leBytes n (crc alg (enc v)).toNat)).length + 1))
    (st1 : σ × EncSt) (hnew : Cobs.tryNew F s0 = (st1, none)) (rest : List Byte) :
    ∃ out, (serializeWith (CrcSer alg n (Cobs F)) (st1, alg.init) v).2 = .ok out ∧
      (fromBytesCobs (fun p => fromBytesCrc alg n (dec t) p) (out ++ rest)).1 = .ok v ∧
      (takeFromBytesCobs (fun p => fromBytesCrc alg n (dec t) p) (out ++ rest)).1
        = .ok (v, rest) :=
  ⟨_, crc_then_cobs L alg n s0 v h0 hroom st1 hnew,
    (unstack alg n v t hty hfit rest).1, (unstack alg n v t hty hfit rest).2.1⟩

/-- a recording user flavour WITHOUT a block-write override: `try_extend` is the
trait default (byte-wise `try_push`), every push is logged. -/
def RecNoOverride : Flavor (List Chunk) (List Chunk) where
  tryPush s b := (s ++ [.push b], none)
  tryExtend := defaultExtend fun s b => (s ++ [.push b], none)
  finalize s := (s, .ok s)
  setAt _ _ _ := none

/-- C20 (user flavours).

* outermost, WITH a block-write override (`Rec` logs `try_push` and
  `try_extend` calls separately): it receives exactly the serializer's call
  sequence `emit v`, whose bytes are `enc v`;
* outermost, WITHOUT an override (`RecNoOverride`): it receives `enc v` as
  single-byte pushes;
* UNDER the CRC modifier (with or without override — the modifier never calls
  `try_extend`): it receives `enc v ++ checksum` as single-byte pushes;
* ANY user flavour `G` under the CRC modifier ends in the state, and returns
  the result, of being pushed `enc v ++ checksum` byte by byte;
* ANY user flavour outermost is issued a prefix of `emit v`, all of it when no
  call fails (`user_flavor_sees_plain`, C05). -/
theorem user_flavor_sees_plain_stack {w : Nat} (alg : CrcAlg w) (n : Nat) (v : Val) :
    serializeWith Rec [] v = (emit v, .ok (emit v)) ∧
    (emit v).flatMap Chunk.bytes = enc v ∧
    serializeWith RecNoOverride [] v = ((enc v).map Chunk.push, .ok ((enc v).map Chunk.push)) ∧
    (serializeWith (CrcSer alg n Rec) ([], alg.init) v).1.1
      = (enc v ++ leBytes n (crc alg (enc v)).toNat).map Chunk.push ∧
    (serializeWith (CrcSer alg n Rec) ([], alg.init) v).2
      = .ok ((enc v ++ leBytes n (crc alg (enc v)).toNat).map Chunk.push) ∧
    (serializeWith (CrcSer alg n RecNoOverride) ([], alg.init) v).2
      = .ok ((enc v ++ leBytes n (crc alg (enc v)).toNat).map Chunk.push) ∧
    (∀ {σ ω : Type} (G : Flavor σ ω) (g : σ),
      (serializeWith (CrcSer alg n G) (g, alg.init) v).1.1
          = (G.runBytes g (enc v ++ leBytes n (crc alg (enc v)).toNat)).1 ∧
      (serializeWith (CrcSer alg n G) (g, alg.init) v).2
          = (G.runBytes g (enc v ++ leBytes n (crc alg (enc v)).toNat)).2) ∧
    (∀ {σ ω : Type} (F : Flavor σ ω) (s : σ),
      F.issued s (emit v) <+: emit v ∧
      ((F.feed s (emit v)).2 = none → F.issued s (emit v) = emit v) ∧
      (F.tryExtend = defaultExtend F.tryPush →
        F.feed s (emit v) = defaultExtend F.tryPush s (enc v))) := by
  have hrec := stack_composes alg n Rec [] v
  rw [Rec.runBytes_eq] at hrec
  have hrno : ∀ bs : List Byte, RecNoOverride.runBytes [] bs = Rec.runBytes [] bs := fun _ => rfl
  refine ⟨?_, emit_flatten v, ?_, hrec.1, hrec.2, ?_, fun G g => stack_composes alg n G g v,
    fun F s => ?_⟩
  · rw [serializeWith, Rec.feed_eq]
    rfl
  · rw [plain_composes RecNoOverride rfl, hrno, Rec.runBytes_eq]
    rfl
  · rw [(stack_composes alg n RecNoOverride [] v).2, hrno, Rec.runBytes_eq]
    rfl
  · have h := user_flavor_sees_plain F s v
    exact ⟨h.1, fun hok => (h.2.2.1 hok).1, h.2.2.2.2.1⟩

/-- `(300u16, "hi")` -/
def C20.exV : Val := .tuple [.u .w16 300, .str [0x68, 0x69]]
def C20.exT : Ty := .tuple [.u .w16, .str]

example : hasTy C20.exV C20.exT = true := by decide
example : enc C20.exV = [0xAC, 0x02, 2, 0x68, 0x69] := by decide
example : leBytes 4 (crc CRC_32_ISO_HDLC (enc C20.exV)).toNat = [60, 161, 50, 67] := by
  decide +kernel
example : cobsEncode (enc C20.exV ++ leBytes 4 (crc CRC_32_ISO_HDLC (enc C20.exV)).toNat) ++ [0]
    = [10, 0xAC, 0x02, 2, 0x68, 0x69, 60, 161, 50, 67, 0] := by decide +kernel

/-- over `AllocVec`, a 16-byte `HVec`, an 11-byte `Slice` (exactly the frame length). -/
example : (serializeWith (CrcSer CRC_32_ISO_HDLC 4 (Cobs AllocVec))
    ((Cobs.tryNew AllocVec []).1, CRC_32_ISO_HDLC.init) C20.exV).2.toOption
    = some [10, 0xAC, 0x02, 2, 0x68, 0x69, 60, 161, 50, 67, 0] := by decide +kernel
example : (serializeWith (CrcSer CRC_32_ISO_HDLC 4 (Cobs HVec))
    ((Cobs.tryNew HVec ⟨16, []⟩).1, CRC_32_ISO_HDLC.init) C20.exV).2.toOption
    = some [10, 0xAC, 0x02, 2, 0x68, 0x69, 60, 161, 50, 67, 0] := by decide +kernel
example : (serializeWith (CrcSer CRC_32_ISO_HDLC 4 (Cobs Slice))
    ((Cobs.tryNew Slice ⟨List.replicate 11 0xFF, 0⟩).1, CRC_32_ISO_HDLC.init)
    C20.exV).2.toOption
    = some [10, 0xAC, 0x02, 2, 0x68, 0x69, 60, 161, 50, 67, 0] := by decide +kernel
/-- one byte short: `SerializeBufferFull` from the last push (the sentinel, in
`Cobs::finalize`), not a panic. -/
example : (serializeWith (CrcSer CRC_32_ISO_HDLC 4 (Cobs Slice))
    ((Cobs.tryNew Slice ⟨List.replicate 10 0xFF, 0⟩).1, CRC_32_ISO_HDLC.init)
    C20.exV).2.toOption
    = none := by decide +kernel

/-- zero bytes of the plain encoding AND of the checksum are stuffed alike:
the 82-bit CRC-82/DARC is written as 16 bytes whose top five are zero. -/
example : (serializeWith (CrcSer CRC_82_DARC 16 (Cobs AllocVec))
    ((Cobs.tryNew AllocVec []).1, CRC_82_DARC.init) C20.exV).2.toOption
    = some [17, 0xAC, 0x02, 2, 0x68, 0x69, 215, 126, 12, 112, 19, 186, 80, 227, 149, 33, 2,
            1, 1, 1, 1, 1, 0] := by decide +kernel
/-- empty plain encoding, checksum `0x00`: the frame is `[1, 1, 0]`. -/
example : (serializeWith (CrcSer CRC_8_SMBUS 1 (Cobs AllocVec))
    ((Cobs.tryNew AllocVec []).1, CRC_8_SMBUS.init) .unit).2.toOption = some [1, 1, 0] := by
  decide +kernel

example : ∃ st1, Cobs.tryNew Slice ⟨List.replicate 11 0xFF, 0⟩ = (st1, none) ∧
    (serializeWith (CrcSer CRC_32_ISO_HDLC 4 (Cobs Slice)) (st1, CRC_32_ISO_HDLC.init) C20.exV).2
      = .ok (cobsEncode (enc C20.exV ++ leBytes 4 (crc CRC_32_ISO_HDLC (enc C20.exV)).toNat)
          ++ [0]) :=
  crc_then_cobs_slice CRC_32_ISO_HDLC 4 (List.replicate 11 0xFF) C20.exV (by decide +kernel)

example : (fromBytesCobs (fun p => fromBytesCrc CRC_32_ISO_HDLC 4 (dec C20.exT) p)
    (cobsEncode (enc C20.exV ++ leBytes 4 (crc CRC_32_ISO_HDLC (enc C20.exV)).toNat) ++ [0]
      ++ [9, 9])).1 = .ok C20.exV :=
  (unstack CRC_32_ISO_HDLC 4 C20.exV C20.exT (by decide) (by decide) [9, 9]).1
example : ((fromBytesCobs (fun p => fromBytesCrc CRC_32_ISO_HDLC 4 (dec C20.exT) p)
    [10, 0xAC, 0x02, 2, 0x68, 0x69, 60, 161, 50, 67, 0, 9, 9]).1.toOption.map enc)
    = some [0xAC, 0x02, 2, 0x68, 0x69] := by decide +kernel
/-- a corrupted frame (`0x6A` for `0x69`) is rejected … -/
example : ((fromBytesCobs (fun p => fromBytesCrc CRC_32_ISO_HDLC 4 (dec C20.exT) p)
    [10, 0xAC, 0x02, 2, 0x68, 0x6A, 60, 161, 50, 67, 0, 9, 9]).1.toOption.map enc) = none := by
  decide +kernel
/-- … and the undoing order matters: CRC-decoding the still COBS-framed bytes fails. -/
example : (fromBytesCrc CRC_32_ISO_HDLC 4 (dec C20.exT)
    [10, 0xAC, 0x02, 2, 0x68, 0x69, 60, 161, 50, 67, 0]).toOption.map enc = none := by
  decide +kernel

example : (serializeWith Rec [] C20.exV).1
    = [.extend [0xAC, 0x02], .extend [2], .extend [0x68, 0x69]] := by rfl
example : (serializeWith RecNoOverride [] C20.exV).1
    = [.push 0xAC, .push 0x02, .push 2, .push 0x68, .push 0x69] := by rfl
example : (serializeWith (CrcSer CRC_32_ISO_HDLC 4 Rec) ([], CRC_32_ISO_HDLC.init) C20.exV).1.1
    = [.push 0xAC, .push 0x02, .push 2, .push 0x68, .push 0x69,
       .push 60, .push 161, .push 50, .push 67] := by
  rw [(user_flavor_sees_plain_stack CRC_32_ISO_HDLC 4 C20.exV).2.2.2.1]
  exact congrArg (List.map Chunk.push)
    (by decide +kernel : enc C20.exV ++ leBytes 4 (crc CRC_32_ISO_HDLC (enc C20.exV)).toNat
      = [0xAC, 0x02, 2, 0x68, 0x69, 60, 161, 50, 67])

end Postcard
