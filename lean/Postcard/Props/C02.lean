import Postcard.Model.Entry
import Postcard.Lemmas.RoundTrip
import Postcard.Lemmas.Flavor
import Postcard.Props.C01
/-
  Postcard.Props.C02 — "Encoder emits exactly the published wire format."
-/
namespace Postcard

/-- length prefixes are `usize` varints, variant indices `u32` varints. -/
theorem spec_len {n : Nat} (h : n < 2 ^ 64) : encVarint 64 n = Spec.varint n :=
  encVarint_eq_spec widthOk64 h

theorem spec_idx {n : Nat} (h : n < 2 ^ 32) : encVarint 32 n = Spec.varint n :=
  encVarint_eq_spec widthOk32 h

/-- The cases are the clauses of `hasTy`, then of `hasTyKV`, `hasTys`, `hasTyAll` (the order of the
motives), each in the order of Model/DataModel.lean.  The typing hypothesis is used for the ranges
only: the width-limited varint loop of the Rust code agrees with the specification's on values
that fit. -/
theorem enc_spec_all :
    (∀ v t, hasTy v t = true → enc v = Spec.encode v) ∧
    (∀ isKey kvs k v, hasTyKV isKey kvs k v = true → encList kvs = Spec.encodeAll kvs) ∧
    (∀ vs ts, hasTys vs ts = true → encList vs = Spec.encodeAll vs) ∧
    (∀ vs t, hasTyAll vs t = true → encList vs = Spec.encodeAll vs) := by
  apply hasTy.mutual_induct_unfolding
    (motive_1 := fun v _ b => b = true → enc v = Spec.encode v)
    (motive_2 := fun _ kvs _ _ b => b = true → encList kvs = Spec.encodeAll kvs)
    (motive_3 := fun vs _ b => b = true → encList vs = Spec.encodeAll vs)
    (motive_4 := fun vs _ b => b = true → encList vs = Spec.encodeAll vs)
  -- the clauses without a condition: .bool, .none, .unit, .unitStruct, and the three `[]`
  case case1 | case9 | case11 | case12 | case24 | case26 | case29 => intros; rfl
  case case2 => -- .u w n, .u w'
    intro w n w' h
    simp only [Bool.and_eq_true, decide_eq_true_eq] at h
    cases w
    · rfl
    all_goals exact enc_uN_spec (by nofun) h.2
  case case3 => -- .i w x, .i w'
    intro w x w' h
    simp only [Bool.and_eq_true, decide_eq_true_eq] at h
    cases w
    · simp only [enc, Spec.encode, toBits8_eq_spec ((IntW.inRangeI_iff .w8 x).1 h.2)]
    all_goals exact enc_iN_spec (by nofun) h.2
  case case4 | case5 => intro b _; simp only [enc, Spec.encode, leBytes_eq_spec] -- .f32 b, .f64 b
  case case6 => -- .char c, .char
    intro c _
    simp only [enc, Spec.encode,
      spec_len (Nat.lt_of_le_of_lt (utf8Encode_length_le c) (by decide))]
  case case7 => -- .str s, .str
    intro s h
    simp only [Bool.and_eq_true, decide_eq_true_eq] at h
    simp only [enc, Spec.encode, spec_len h.2]
  case case8 => -- .bytes b, .bytes
    intro s h
    simp only [enc, Spec.encode, spec_len (of_decide_eq_true h)]
  -- .some v, .newtypeStruct v, .tuple vs, .tupleStruct vs, .struct vs: the clause is the
  -- recursive call
  case case10 | case13 | case15 | case16 | case17 =>
    intro _ _ ih h
    simp only [enc, Spec.encode, ih h]
  case case14 => -- .seq vs, .seq t
    intro vs t ih h
    simp only [Bool.and_eq_true, decide_eq_true_eq] at h
    simp only [enc, Spec.encode, spec_len h.2, ih h.1]
  case case18 => -- .map kvs, .map k v
    intro kvs k v ih h
    simp only [Bool.and_eq_true, decide_eq_true_eq] at h
    simp only [enc, Spec.encode, spec_len h.2, ih h.1]
  case case19 => -- .unitVariant idx, .enum vts
    intro idx vts h
    simp only [Bool.and_eq_true, decide_eq_true_eq] at h
    simp only [enc, Spec.encode, spec_idx h.1]
  -- .newtypeVariant idx v, .tupleVariant idx vs, .structVariant idx vs, .enum vts
  case case20 | case21 | case22 =>
    intro idx v vts ih h
    simp only [Bool.and_eq_true, decide_eq_true_eq] at h
    obtain ⟨hi, h⟩ := h
    split at h
    · simp only [enc, Spec.encode, spec_idx hi, ih _ h]
    · cases h
  case case23 => intros; contradiction -- _, _ => false
  case case25 => -- isKey, x :: xs
    intro isKey x xs k v ih1 ih2 h
    simp only [hasTyKV, Bool.and_eq_true] at h
    simp only [encList, Spec.encodeAll, ih1 h.1, ih2 h.2]
  case case27 => -- v :: vs, t :: ts
    intro v vs t ts ih1 ih2 h
    simp only [hasTys, Bool.and_eq_true] at h
    simp only [encList, Spec.encodeAll, ih1 h.1, ih2 h.2]
  case case28 => intro vs ts h1 h2 h; rw [hasTys_eq_false h1 h2] at h; cases h -- _, _ => false
  case case30 => -- v :: vs, t
    intro v vs t ih1 ih2 h
    simp only [hasTyAll, Bool.and_eq_true] at h
    simp only [encList, Spec.encodeAll, ih1 h.1, ih2 h.2]

/-- C02: on every well-typed value the model of the Rust serializer (`enc`, widths / fuel /
`to_le_bytes` and all) equals `Spec.encode`, the transcription of spec/src/wire-format.md. -/
theorem enc_eq_spec (v : Val) (t : Ty) (h : hasTy v t = true) : enc v = Spec.encode v :=
  enc_spec_all.1 v t h

theorem encList_eq_spec_tys (vs : List Val) (ts : List Ty) (h : hasTys vs ts = true) :
    encList vs = Spec.encodeAll vs := enc_spec_all.2.2.1 vs ts h

theorem encList_eq_spec_all (vs : List Val) (t : Ty) (h : hasTyAll vs t = true) :
    encList vs = Spec.encodeAll vs := enc_spec_all.2.2.2 vs t h

theorem encList_eq_spec_kv (kvs : List Val) (isKey : Bool) (k v : Ty)
    (h : hasTyKV isKey kvs k v = true) : encList kvs = Spec.encodeAll kvs :=
  enc_spec_all.2.1 isKey kvs k v h

theorem entry_points_eq_spec (v : Val) (t : Ty) (h : hasTy v t = true) :
    toAllocVec v = .ok (Spec.encode v) ∧
    (∀ buf out, (toSlice v buf).2 = .ok out → out = Spec.encode v) ∧
    (∀ cap out, (toHVec cap v).2 = .ok out → out = Spec.encode v) := by
  rw [← enc_eq_spec v t h]
  exact ⟨toAllocVec_eq v, (encode_entry_out v).2.1, (encode_entry_out v).2.2⟩

example : Spec.encode C01.exV = [0xAC, 0x02, 1, 2, 0x68, 0x69, 1, 3] := by
  simp [C01.exV, Spec.encode, Spec.encodeAll, Spec.varint, Spec.zigzag]
example : enc C01.exV = Spec.encode C01.exV := enc_eq_spec _ _ C01.ex_hasTy
-- the typing hypothesis matters: an out-of-range `u16` is truncated by the
-- width-limited Rust loop but not by the specification's varint
example : enc (.u .w16 (2 ^ 21)) ≠ Spec.encode (.u .w16 (2 ^ 21)) := by
  simp [enc, Spec.encode, encVarint, varintMax, encVarintLoop, IntW.bits, Spec.varint]

/-- serde kinds with the same content have the same encoding.  (`Val` carries no names to begin
with; that no arity is written is `enc_fields`.) -/
theorem enc_name_irrelevant :
    (∀ vs, enc (.tuple vs) = enc (.tupleStruct vs) ∧ enc (.tuple vs) = enc (.struct vs)) ∧
    (∀ v, enc (.newtypeStruct v) = enc v) ∧
    (enc .unit = [] ∧ enc .unitStruct = []) ∧
    (∀ idx vs, enc (.tupleVariant idx vs) = enc (.structVariant idx vs)) := by
  refine ⟨fun vs => ⟨?_, ?_⟩, fun v => ?_, ⟨?_, ?_⟩, fun idx vs => ?_⟩
  all_goals simp only [enc]

theorem enc_fields (vs : List Val) : enc (.struct vs) = (vs.map enc).flatten := by
  simp only [enc]
  induction vs with
  | nil => simp [encList]
  | cons v vs ih => simp [encList, ih]

example : enc (.tuple [.bool true, .u .w8 7]) = enc (.struct [.bool true, .u .w8 7]) :=
  (enc_name_irrelevant.1 _).2
example : enc (.struct [.bool true, .u .w8 7]) = [1, 7] := by decide +kernel

/-- `serialize_seq(None)` / `serialize_map(None)` fail with
`SerializeSeqLengthUnknown` before anything is handed to the flavour. -/
theorem seq_unknown_len : serSeqHeader none = .error .seqLengthUnknown := rfl

theorem seq_known_len (n : Nat) : serSeqHeader (some n) = .ok [.extend (encVarint 64 n)] := rfl

theorem emit_seq_header (vs : List Val) :
    (∃ hdr, serSeqHeader (some vs.length) = .ok hdr ∧ emit (.seq vs) = hdr ++ emitList vs) ∧
    (∃ hdr, serSeqHeader (some (vs.length / 2)) = .ok hdr ∧ emit (.map vs) = hdr ++ emitList vs) :=
  ⟨⟨_, rfl, by simp [emit]⟩, ⟨_, rfl, by simp [emit]⟩⟩

/-- `collect_str`: if the two formatting passes produce the same text, the
bytes handed to the flavour are those of `serialize_str` on that text. -/
theorem collect_str_eq (pass1 pass2 : List (List Byte)) (h : pass1.flatten = pass2.flatten) :
    (collectStr pass1 pass2).flatMap Chunk.bytes = enc (.str pass2.flatten) := by
  show chunkBytes (_ :: pass2.map .extend) = _
  rw [chunkBytes_cons, chunkBytes_map_extend, ← List.length_flatten, h]
  rfl

/-- …and only the total text matters, not how `Display` chops it into
`write_str` pieces. -/
example : (collectStr [[0x68], [0x69]] [[0x68, 0x69]]).flatMap Chunk.bytes
    = enc (.str [0x68, 0x69]) := collect_str_eq _ _ rfl
example : (collectStr [[0x68], [0x69]] [[0x68, 0x69]]).flatMap Chunk.bytes = [2, 0x68, 0x69] := by
  decide +kernel

/-- C02: an iterator whose length is not known up front (size hint not exact) handed to
`collect_seq` / `collect_map` is refused, nothing is emitted. -/
theorem collect_unknown_refused (lo : Nat) (hi : Option Nat) (h : hi ≠ some lo) :
    collectHeader lo hi = .error .seqLengthUnknown := by
  unfold collectHeader iteratorLenHint
  cases hi with
  | none => rfl
  | some k =>
    have : lo ≠ k := fun e => h (by rw [e])
    simp [this, serSeqHeader]

theorem collect_exact (n : Nat) :
    collectHeader n (some n) = .ok [.extend (encVarint 64 n)] := by
  simp [collectHeader, iteratorLenHint, serSeqHeader]

end Postcard
