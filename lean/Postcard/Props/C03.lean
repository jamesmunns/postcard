import Postcard.Lemmas.RoundTrip
/-
  Postcard.Props.C03 — "Decoder accepts exactly the encodings the
  specification allows".

  Specification side: `Permitted` (Spec/Permitted.lean, written from
  wire-format.md).  Decoder side: `dec` (Model/De.lean, mirrors
  de/deserializer.rs over the `Slice` flavour; `decChar` includes `deserialize_char`'s
  rejection of anything after the one scalar).

  `Val` has no `DecidableEq`, so the closed examples are by `rfl`, not `decide`.
-/
namespace Postcard

def DecErr (e : Err) : Prop :=
  e = .unexpectedEnd ∨ e = .badVarint ∨ e = .badBool ∨ e = .badOption ∨ e = .badUtf8 ∨
  e = .badChar ∨ e = .wontImplement ∨ e = .custom

theorem DecErr.unexpectedEnd : DecErr .unexpectedEnd := .inl rfl

def Sound {α : Type} (f : List Byte → R (α × List Byte)) (A : α → List Byte → Prop) : Prop :=
  ∀ bs, match f bs with
    | .ok (a, r) => ∃ p, bs = p ++ r ∧ A a p
    | .error e => DecErr e

section
variable {α β γ : Type} {f : List Byte → R (α × List Byte)}
  {g : α → List Byte → R (β × List Byte)} {h : List Byte → R (γ × List Byte)}
  {A : α → List Byte → Prop} {B : α → β → List Byte → Prop} {C : γ → List Byte → Prop}
  {bs r : List Byte}

theorem Sound.ok {a : α} (hf : Sound f A) (hd : f bs = .ok (a, r)) :
    ∃ p, bs = p ++ r ∧ A a p := by
  have := hf bs
  rwa [hd] at this

theorem Sound.err {e : Err} (hf : Sound f A) (hd : f bs = .error e) : DecErr e := by
  have := hf bs
  rwa [hd] at this

/-- The error first: a proof that follows a reader step by step dismisses it and goes on, as `?`
does. -/
theorem Sound.cases (hf : Sound f A) (bs : List Byte) :
    (∃ e, f bs = .error e ∧ DecErr e) ∨ ∃ a r p, f bs = .ok (a, r) ∧ bs = p ++ r ∧ A a p := by
  have := hf bs
  split at this
  · next a r h => obtain ⟨p, hp⟩ := this; exact .inr ⟨a, r, p, h, hp⟩
  · next e h => exact .inl ⟨e, h, this⟩

/-- `h` runs `f`, then `g` on what `f` left, and returns `mk` of the two values; the counterpart
of `Reads.seq`. -/
theorem Sound.seq {mk : α → β → γ} (hf : Sound f A) (hg : ∀ a, Sound (g a) (B a))
    (hok : ∀ {bs a r b r'}, f bs = .ok (a, r) → g a r = .ok (b, r') → h bs = .ok (mk a b, r'))
    (herr : ∀ {bs e}, f bs = .error e → h bs = .error e)
    (herr' : ∀ {bs a r e}, f bs = .ok (a, r) → g a r = .error e → h bs = .error e)
    (hC : ∀ a p b q, A a p → B a b q → C (mk a b) (p ++ q)) : Sound h C := fun bs => by
  obtain ⟨e, h1, he⟩ | ⟨a, r, p, h1, rfl, hp⟩ := hf.cases bs
  · rw [herr h1]; exact he
  obtain ⟨e, h2, he⟩ | ⟨b, r', q, h2, rfl, hq⟩ := (hg a).cases r
  · rw [herr' h1 h2]; exact he
  rw [hok h1 h2]
  exact ⟨p ++ q, (List.append_assoc ..).symm, hC _ _ _ _ hp hq⟩

theorem Sound.wrap {mk : α → γ} (hf : Sound f A)
    (hok : ∀ {bs a r}, f bs = .ok (a, r) → h bs = .ok (mk a, r))
    (herr : ∀ {bs e}, f bs = .error e → h bs = .error e)
    (hC : ∀ a p, A a p → C (mk a) p) : Sound h C := fun bs => by
  obtain ⟨e, h1, he⟩ | ⟨a, r, p, h1, hb, hp⟩ := hf.cases bs
  · rw [herr h1]; exact he
  rw [hok h1]
  exact ⟨p, hb, hC _ _ hp⟩
end

theorem decVarint_cases {bits : Nat} (hb : WidthOk bits) :
    Sound (decVarint bits) (PermittedVarint bits) := fun bs => by
  split
  · next h => exact (decVarint_ok_iff hb).1 h
  · next h => rcases decVarint_error_kinds h with rfl | rfl <;> simp [DecErr]

theorem takeN_cases (n : Nat) : Sound (takeN n) fun s p => p = s ∧ s.length = n := fun bs => by
  split
  · next s r h => exact ⟨s, (takeN_ok_iff.1 h).1, rfl, (takeN_ok_iff.1 h).2⟩
  · next h => rw [(takeN_error_iff.1 h).1]; exact .unexpectedEnd

theorem decN_cases {t : Ty} (ht : Sound (dec t) (Permitted t)) :
    ∀ n, Sound (decN (dec t) n) fun vs p => vs.length = n ∧ PermittedAll t vs p
  | 0 => fun _ => ⟨[], rfl, rfl, .nil t⟩
  | n+1 => ht.seq (mk := .cons) (fun _ => decN_cases ht n)
    (fun e1 e2 => by simp only [decN, e1, e2]) (fun e => by simp only [decN, e])
    (fun e1 e2 => by simp only [decN, e1, e2])
    fun _ _ _ _ hp hq => ⟨congrArg Nat.succ hq.1, .cons _ _ _ _ _ hp hq.2⟩

theorem decKV_cases {k v : Ty} (hk : Sound (dec k) (Permitted k))
    (hv : Sound (dec v) (Permitted v)) : ∀ n,
    Sound (decKV (dec k) (dec v) n) fun kvs p => kvs.length = 2 * n ∧ PermittedKV k v kvs p
  | 0 => fun _ => ⟨[], rfl, rfl, .nil k v⟩
  | n+1 => fun bs => by
    simp only [decKV]
    obtain ⟨e, hd, he⟩ | ⟨x, r, p, hd, rfl, hp⟩ := hk.cases bs
    · simp only [hd]; exact he
    obtain ⟨e, hd2, he⟩ | ⟨y, r', q, hd2, rfl, hq⟩ := hv.cases r
    · simp only [hd, hd2]; exact he
    obtain ⟨e, hd3, he⟩ | ⟨kvs, r'', s, hd3, rfl, hl, hs⟩ := (decKV_cases hk hv n).cases r'
    · simp only [hd, hd2, hd3]; exact he
    simp only [hd, hd2, hd3]
    exact ⟨p ++ q ++ s, by simp only [List.append_assoc],
      by rw [List.length_cons, List.length_cons, hl]; rfl, .cons _ _ _ _ _ _ _ _ hp hq hs⟩

mutual
theorem dec_cases : ∀ t : Ty, Sound (dec t) (Permitted t)
  | .bool => fun
    | [] => .unexpectedEnd
    | b :: r => by
      by_cases h0 : b = 0
      · subst h0; exact ⟨[0], rfl, .boolFalse⟩
      by_cases h1 : b = 1
      · subst h1; exact ⟨[1], rfl, .boolTrue⟩
      · rw [show dec .bool (b :: r) = .error .badBool by simp [dec, h0, h1]]; simp [DecErr]
  | .u w => by
    by_cases hw : w = .w8
    · subst hw
      exact fun
        | [] => .unexpectedEnd
        | b :: _ => ⟨[b], rfl, .u8 b⟩
    · exact (decVarint_cases (IntW.widthOk hw)).wrap (fun e => by rw [dec_uN hw, e])
        (fun e => by rw [dec_uN hw, e]) fun n p => .uN w n p hw
  | .i w => by
    by_cases hw : w = .w8
    · subst hw
      exact fun
        | [] => .unexpectedEnd
        | b :: _ => ⟨[b], rfl, .i8 b⟩
    · exact (decVarint_cases (IntW.widthOk hw)).wrap (fun e => by rw [dec_iN hw, e])
        (fun e => by rw [dec_iN hw, e]) fun n p => .iN w n p hw
  | .f32 => (takeN_cases 4).wrap (mk := fun s => .f32 (ofLeBytes s))
      (fun e => by simp only [dec, e]) (fun e => by simp only [dec, e])
      fun s _ h => h.1 ▸ .f32 s h.2
  | .f64 => (takeN_cases 8).wrap (mk := fun s => .f64 (ofLeBytes s))
      (fun e => by simp only [dec, e]) (fun e => by simp only [dec, e])
      fun s _ h => h.1 ▸ .f64 s h.2
  | .char => fun bs => by
    simp only [dec, decChar]
    obtain ⟨e, hd, he⟩ | ⟨sz, r, p, hd, rfl, hp⟩ := (decVarint_cases widthOk64).cases bs
    · simp only [hd]; exact he
    simp only [hd]
    by_cases h4 : sz > 4
    · simp [h4, DecErr]
    obtain ⟨e, ht, he⟩ | ⟨_, r', s, ht, rfl, rfl, rfl⟩ := (takeN_cases sz).cases r
    · simp only [h4, if_false, ht]; exact he
    simp only [h4, if_false, ht]
    by_cases hu : utf8Valid s = true
    · simp only [hu, if_true]
      match hn : utf8Next s with
      | some (c, []) =>
        obtain ⟨hs, he⟩ := utf8Next_sound hn
        rw [List.append_nil] at he
        subst he
        exact ⟨p ++ utf8Encode c, (List.append_assoc ..).symm, .char c p hs hp⟩
      | none | some (_, _ :: _) => simp [DecErr]
    · simp [hu, DecErr]
  | .str => fun bs => by
    simp only [dec]
    obtain ⟨e, hd, he⟩ | ⟨sz, r, p, hd, rfl, hp⟩ := (decVarint_cases widthOk64).cases bs
    · simp only [hd]; exact he
    obtain ⟨e, ht, he⟩ | ⟨_, r', s, ht, rfl, rfl, rfl⟩ := (takeN_cases sz).cases r
    · simp only [hd, ht]; exact he
    by_cases hu : utf8Valid s = true
    · simp only [hd, ht, hu, if_true]
      exact ⟨p ++ s, (List.append_assoc ..).symm, .str s p hp hu⟩
    · simp [hd, ht, hu, DecErr]
  | .bytes => (decVarint_cases widthOk64).seq (mk := fun _ => .bytes) takeN_cases
      (fun e1 e2 => by simp only [dec, e1, e2]) (fun e => by simp only [dec, e])
      (fun e1 e2 => by simp only [dec, e1, e2])
      fun _ p s _ hp hs => by obtain ⟨rfl, rfl⟩ := hs; exact .bytes _ p hp
  | .option t => fun
    | [] => .unexpectedEnd
    | b :: r => by
      by_cases h0 : b = 0
      · subst h0; exact ⟨[0], rfl, .none t⟩
      by_cases h1 : b = 1
      · subst h1
        obtain ⟨e, hd, he⟩ | ⟨v, r', p, hd, rfl, hp⟩ := (dec_cases t).cases r
        · rw [show dec (.option t) (1 :: r) = .error e by simp [dec, hd]]; exact he
        rw [show dec (.option t) (1 :: (p ++ r')) = .ok (.some v, r') by simp [dec, hd]]
        exact ⟨1 :: p, rfl, .some t v p hp⟩
      · rw [show dec (.option t) (b :: r) = .error .badOption by simp [dec, h0, h1]]; simp [DecErr]
  | .unit => fun _ => ⟨[], rfl, .unit⟩
  | .unitStruct => fun _ => ⟨[], rfl, .unitStruct⟩
  | .newtypeStruct t => (dec_cases t).wrap (fun e => by simp only [dec, e])
      (fun e => by simp only [dec, e]) (.newtypeStruct t)
  | .seq t => (decVarint_cases widthOk64).seq (mk := fun _ => .seq)
      (fun n => decN_cases (dec_cases t) n)
      (fun e1 e2 => by simp only [dec, e1, e2]) (fun e => by simp only [dec, e])
      (fun e1 e2 => by simp only [dec, e1, e2])
      fun _ p vs q hp hq => by obtain ⟨rfl, hq⟩ := hq; exact .seq t vs p q hp hq
  | .tuple ts => (decTuple_cases ts).wrap (fun e => by simp only [dec, e])
      (fun e => by simp only [dec, e]) (.tuple ts)
  | .tupleStruct ts => (decTuple_cases ts).wrap (fun e => by simp only [dec, e])
      (fun e => by simp only [dec, e]) (.tupleStruct ts)
  | .struct ts => (decTuple_cases ts).wrap (fun e => by simp only [dec, e])
      (fun e => by simp only [dec, e]) (.struct ts)
  | .map k v => (decVarint_cases widthOk64).seq (mk := fun _ => .map)
      (fun n => decKV_cases (dec_cases k) (dec_cases v) n)
      (fun e1 e2 => by simp only [dec, e1, e2]) (fun e => by simp only [dec, e])
      (fun e1 e2 => by simp only [dec, e1, e2])
      fun n p kvs q hp hq =>
        have hn : kvs.length / 2 = n := by rw [hq.1, Nat.mul_div_cancel_left n Nat.two_pos]
        .map k v kvs p q (hn ▸ hp) hq.2
  | .enum vts => (decVarint_cases widthOk32).seq (mk := fun _ v => v)
      (fun idx => decVariant_cases vts idx idx)
      (fun e1 e2 => by simp only [dec, e1, e2]) (fun e => by simp only [dec, e])
      (fun e1 e2 => by simp only [dec, e1, e2])
      fun idx p v q hp ⟨vt, hvt, hq⟩ => .enum vts idx vt v p q hp hvt hq
  | .any | .identifier | .ignoredAny => fun _ => show DecErr .wontImplement by simp [DecErr]
theorem decTuple_cases : ∀ ts : List Ty, Sound (decTuple ts) (PermittedTuple ts)
  | [] => fun _ => ⟨[], rfl, .nil⟩
  | t :: ts => (dec_cases t).seq (mk := .cons) (fun _ => decTuple_cases ts)
    (fun e1 e2 => by simp only [decTuple, e1, e2])
    (fun e => by simp only [decTuple, e])
    (fun e1 e2 => by simp only [decTuple, e1, e2]) fun _ _ _ _ => .cons t ts _ _ _ _
theorem decVariant_cases : ∀ (vts : List Ty) (k idx : Nat),
    Sound (decVariant vts k idx) fun v p => ∃ vt, vts[k]? = some vt ∧ PermittedVariant vt idx v p
  | [], _, _ => fun _ => show DecErr .custom by simp [DecErr]
  | vt :: _, 0, idx => by
    have hc : DecErr .custom := by simp [DecErr]
    cases vt with
    | unit => exact fun _ => ⟨[], rfl, .unit, rfl, .unit idx⟩
    | newtypeStruct t =>
      exact (dec_cases t).wrap (fun e => by simp only [decVariant, e])
        (fun e => by simp only [decVariant, e]) fun v p hp => ⟨_, rfl, .newtype t idx v p hp⟩
    | tuple ts =>
      exact (decTuple_cases ts).wrap (fun e => by simp only [decVariant, e])
        (fun e => by simp only [decVariant, e]) fun vs p hp => ⟨_, rfl, .tuple ts idx vs p hp⟩
    | struct ts =>
      exact (decTuple_cases ts).wrap (fun e => by simp only [decVariant, e])
        (fun e => by simp only [decVariant, e]) fun vs p hp => ⟨_, rfl, .struct ts idx vs p hp⟩
    | _ => exact fun _ => hc -- ill-formed descriptor (never generated)
  | _ :: rest, k+1, idx => decVariant_cases rest k idx
end

theorem dec_sound (t : Ty) (bs : List Byte) (v : Val) (r : List Byte)
    (h : dec t bs = .ok (v, r)) : ∃ p, bs = p ++ r ∧ Permitted t v p :=
  (dec_cases t).ok h

theorem decTuple_sound (ts : List Ty) (bs : List Byte) (vs : List Val) (r : List Byte)
    (h : decTuple ts bs = .ok (vs, r)) : ∃ p, bs = p ++ r ∧ PermittedTuple ts vs p :=
  (decTuple_cases ts).ok h

theorem dec_error_kinds : ∀ (t : Ty) (bs : List Byte) (e : Err), dec t bs = .error e → DecErr e :=
  fun t _ _ => (dec_cases t).err

theorem decTuple_error_kinds : ∀ (ts : List Ty) (bs : List Byte) (e : Err),
    decTuple ts bs = .error e → DecErr e :=
  fun ts _ _ => (decTuple_cases ts).err

theorem decVariant_error_kinds : ∀ (vts : List Ty) (k idx : Nat) (bs : List Byte) (e : Err),
    decVariant vts k idx bs = .error e → DecErr e :=
  fun vts k idx _ _ => (decVariant_cases vts k idx).err

/-- **C03.1** the decoder accepts exactly the permitted byte strings (followed
by an arbitrary remainder, which it hands back untouched). -/
theorem dec_ok_iff (t : Ty) (bs : List Byte) (v : Val) (r : List Byte) :
    dec t bs = .ok (v, r) ↔ ∃ p, bs = p ++ r ∧ Permitted t v p :=
  ⟨dec_sound t bs v r, fun ⟨_, hb, hp⟩ => hb ▸ dec_complete hp r⟩

theorem decTuple_ok_iff (ts : List Ty) (bs : List Byte) (vs : List Val) (r : List Byte) :
    decTuple ts bs = .ok (vs, r) ↔ ∃ p, bs = p ++ r ∧ PermittedTuple ts vs p :=
  ⟨decTuple_sound ts bs vs r, fun ⟨_, hb, hp⟩ => hb ▸ decTuple_complete hp r⟩

theorem decN_ok_iff (t : Ty) (n : Nat) (bs : List Byte) (vs : List Val) (r : List Byte) :
    decN (dec t) n bs = .ok (vs, r) ↔ ∃ p, bs = p ++ r ∧ vs.length = n ∧ PermittedAll t vs p :=
  ⟨(decN_cases (dec_cases t) n).ok, fun ⟨_, hb, hl, hp⟩ => hb ▸ hl ▸ decN_complete hp r⟩

theorem decKV_ok_iff (k v : Ty) (n : Nat) (bs : List Byte) (kvs : List Val) (r : List Byte) :
    decKV (dec k) (dec v) n bs = .ok (kvs, r) ↔
      ∃ p, bs = p ++ r ∧ kvs.length = 2 * n ∧ PermittedKV k v kvs p := by
  refine ⟨(decKV_cases (dec_cases k) (dec_cases v) n).ok, ?_⟩
  rintro ⟨p, rfl, hl, hp⟩
  have hn : kvs.length / 2 = n := by rw [hl, Nat.mul_div_cancel_left n Nat.two_pos]
  exact hn ▸ decKV_complete hp r

theorem decVariant_ok_iff (vts : List Ty) (k idx : Nat) (bs : List Byte) (v : Val) (r : List Byte) :
    decVariant vts k idx bs = .ok (v, r) ↔
      ∃ vt p, vts[k]? = some vt ∧ bs = p ++ r ∧ PermittedVariant vt idx v p := by
  constructor
  · intro h
    obtain ⟨p, hb, vt, hvt, hp⟩ := (decVariant_cases vts k idx).ok h
    exact ⟨vt, p, hvt, hb, hp⟩
  rintro ⟨vt, p, hvt, rfl, hp⟩
  rw [decVariant_some vts k idx _ vt hvt]
  exact (permittedVariant_reads hp).1 r

/-- Rule induction by the recursor, as for `permitted_reads`; every arm of `hasTy` met on the way
unfolds by evaluation. -/
theorem permitted_hasTy : ∀ {t : Ty} {v : Val} {p : List Byte},
    Permitted t v p → hasTy v t = true :=
  fun h => Permitted.rec (motive_1 := fun t v _ _ => hasTy v t = true)
    (motive_2 := fun vt idx v _ _ =>
      ∀ vts : List Ty, idx < 2 ^ 32 → vts[idx]? = some vt → hasTy v (.enum vts) = true)
    (motive_3 := fun ts vs _ _ => hasTys vs ts = true)
    (motive_4 := fun t vs _ _ => hasTyAll vs t = true)
    (motive_5 := fun k v kvs _ _ => hasTyKV true kvs k v = true)
    rfl rfl
    (fun b => Bool.and_eq_true_iff.2 ⟨decide_eq_true rfl, decide_eq_true b.toNat_lt⟩) -- u8
    (fun _ _ _ _ hp => Bool.and_eq_true_iff.2 ⟨decide_eq_true rfl, decide_eq_true hp.value_lt⟩)
    (fun b => Bool.and_eq_true_iff.2 -- i8
      ⟨decide_eq_true rfl, (IntW.inRangeI_iff .w8 _).2 (ofBits8_range b)⟩)
    (fun w _ _ _ hp => Bool.and_eq_true_iff.2 ⟨decide_eq_true rfl,
      (IntW.inRangeI_iff w _).2 (unzigzag_range (IntW.bits_pos w) hp.value_lt)⟩)
    (fun bs hl => decide_eq_true (show ofLeBytes bs < 256 ^ 4 from hl ▸ ofLeBytes_lt bs)) -- f32
    (fun bs hl => decide_eq_true (show ofLeBytes bs < 256 ^ 8 from hl ▸ ofLeBytes_lt bs))
    (fun _ _ hs _ => hs) -- char
    (fun _ _ hp hu => Bool.and_eq_true_iff.2 ⟨hu, decide_eq_true hp.value_lt⟩) -- str
    (fun _ _ hp => decide_eq_true hp.value_lt) -- bytes
    (fun _ => rfl) -- none
    (fun _ _ _ _ ih => ih) -- some
    rfl rfl
    (fun _ _ _ _ ih => ih) -- newtypeStruct
    (fun _ _ _ _ hp _ ih => Bool.and_eq_true_iff.2 ⟨ih, decide_eq_true hp.value_lt⟩) -- seq
    -- tuple, tupleStruct, struct
    (fun _ _ _ _ ih => ih) (fun _ _ _ _ ih => ih) (fun _ _ _ _ ih => ih)
    (fun _ _ _ _ _ hp _ ih => Bool.and_eq_true_iff.2 ⟨ih, decide_eq_true hp.value_lt⟩) -- map
    (fun vts _ _ _ _ _ hp hvt _ ih => ih vts hp.value_lt hvt) -- enum
    (fun _ _ hi hvt => Bool.and_eq_true_iff.2 ⟨decide_eq_true hi, by rw [hvt]⟩) -- unit variant
    (fun _ _ _ _ _ ih _ hi hvt => Bool.and_eq_true_iff.2 ⟨decide_eq_true hi, by rw [hvt]; exact ih⟩)
    (fun _ _ _ _ _ ih _ hi hvt => Bool.and_eq_true_iff.2 ⟨decide_eq_true hi, by rw [hvt]; exact ih⟩)
    (fun _ _ _ _ _ ih _ hi hvt => Bool.and_eq_true_iff.2 ⟨decide_eq_true hi, by rw [hvt]; exact ih⟩)
    rfl (fun _ _ _ _ _ _ _ _ ih1 ih2 => Bool.and_eq_true_iff.2 ⟨ih1, ih2⟩) -- tuple: nil, cons
    (fun _ => rfl) (fun _ _ _ _ _ _ _ ih1 ih2 => Bool.and_eq_true_iff.2 ⟨ih1, ih2⟩) -- all
    (fun _ _ => rfl) -- key/value
    (fun _ _ _ _ _ _ _ _ _ _ _ ih1 ih2 ih3 =>
      Bool.and_eq_true_iff.2 ⟨ih1, Bool.and_eq_true_iff.2 ⟨ih2, ih3⟩⟩)
    h

theorem permittedTuple_hasTy : ∀ {ts : List Ty} {vs : List Val} {p : List Byte},
    PermittedTuple ts vs p → hasTys vs ts = true :=
  fun h => permitted_hasTy (.tuple _ _ _ h)

theorem permittedAll_hasTy : ∀ {t : Ty} {vs : List Val} {p : List Byte},
    PermittedAll t vs p → hasTyAll vs t = true
  | _, _, _, .nil _ => rfl
  | _, _, _, .cons _ _ _ _ _ h1 h2 =>
    Bool.and_eq_true_iff.2 ⟨permitted_hasTy h1, permittedAll_hasTy h2⟩
termination_by structural _ vs => vs

theorem permittedKV_hasTy : ∀ {k v : Ty} {kvs : List Val} {p : List Byte},
    PermittedKV k v kvs p → hasTyKV true kvs k v = true
  | _, _, _, _, .nil _ _ => rfl
  | _, _, _, _, .cons _ _ _ _ _ _ _ _ h1 h2 h3 => Bool.and_eq_true_iff.2
    ⟨permitted_hasTy h1, Bool.and_eq_true_iff.2 ⟨permitted_hasTy h2, permittedKV_hasTy h3⟩⟩
termination_by structural _ _ kvs => kvs

theorem permittedVariant_hasTy : ∀ {vt : Ty} {idx : Nat} {v : Val} {p : List Byte} {vts : List Ty},
    PermittedVariant vt idx v p → idx < 2 ^ 32 → vts[idx]? = some vt → hasTy v (.enum vts) = true :=
  fun hq hi hvt => permitted_hasTy (.enum _ _ _ _ _ _ (permitted_encVarint widthOk32 hi) hvt hq)

theorem dec_hasTy {t : Ty} {bs : List Byte} {v : Val} {r : List Byte}
    (h : dec t bs = .ok (v, r)) : hasTy v t = true := by
  obtain ⟨p, _, hp⟩ := dec_sound t bs v r h
  exact permitted_hasTy hp

theorem dec_enc {v : Val} {t : Ty} (h : hasTy v t = true) (r : List Byte) :
    dec t (enc v ++ r) = .ok (v, r) :=
  dec_complete (permitted_enc v t h) r

theorem permitted_of_dec {t : Ty} {p r : List Byte} {v : Val}
    (h : dec t (p ++ r) = .ok (v, r)) : Permitted t v p := by
  obtain ⟨p', hb, hp⟩ := dec_sound t _ v r h
  rw [List.append_cancel_right hb]
  exact hp

/-- **C03.3** the bytes after the consumed prefix never influence the result. -/
theorem rest_irrelevant {t : Ty} {p r : List Byte} {v : Val}
    (h : dec t (p ++ r) = .ok (v, r)) : ∀ r', dec t (p ++ r') = .ok (v, r') :=
  dec_complete (permitted_of_dec h)

theorem permitted_prefix_free {t : Ty} {v v' : Val} {p p' : List Byte}
    (h : Permitted t v p) (h' : Permitted t v' p') (hpre : p <+: p') : p = p' ∧ v = v' := by
  obtain ⟨x, rfl⟩ := hpre
  have h2 := dec_complete h' []
  rw [List.append_nil, dec_complete h x] at h2
  cases h2
  exact ⟨(List.append_nil p).symm, rfl⟩

theorem permittedTuple_trunc : ∀ {ts : List Ty} {vs : List Val} {p : List Byte},
    PermittedTuple ts vs p → ∀ q, q <+: p → q ≠ p → decTuple ts q = .error .unexpectedEnd :=
  fun h => (permittedTuple_reads h).2

theorem permittedAll_trunc : ∀ {t : Ty} {vs : List Val} {p : List Byte},
    PermittedAll t vs p →
    ∀ q, q <+: p → q ≠ p → decN (dec t) vs.length q = .error .unexpectedEnd :=
  fun h => (permittedAll_reads h).2

theorem permittedKV_trunc : ∀ {k v : Ty} {kvs : List Val} {p : List Byte},
    PermittedKV k v kvs p →
    ∀ q, q <+: p → q ≠ p → decKV (dec k) (dec v) (kvs.length / 2) q = .error .unexpectedEnd :=
  fun h => (permittedKV_reads h).2

theorem permittedVariant_trunc : ∀ {vt : Ty} {idx : Nat} {v : Val} {p : List Byte},
    PermittedVariant vt idx v p →
    ∀ q, q <+: p → q ≠ p → decVariant [vt] 0 idx q = .error .unexpectedEnd :=
  fun h => (permittedVariant_reads h).2

/-- **C03.4** every strict prefix of a valid message fails with unexpected-end
(never with another error, never with a different value). -/
theorem strict_prefix_unexpected_end {t : Ty} {p r : List Byte} {v : Val}
    (h : dec t (p ++ r) = .ok (v, r)) :
    ∀ q, q <+: p → q ≠ p → dec t q = .error .unexpectedEnd :=
  (permitted_reads (permitted_of_dec h)).2

theorem dec_bool_badBool_iff (b : Byte) (r : List Byte) :
    dec .bool (b :: r) = .error .badBool ↔ b ≠ 0 ∧ b ≠ 1 := by
  simp only [dec]
  by_cases h0 : b = 0 <;> by_cases h1 : b = 1 <;> simp [h0, h1]

theorem dec_option_badOption (t : Ty) (b : Byte) (r : List Byte) (h0 : b ≠ 0) (h1 : b ≠ 1) :
    dec (.option t) (b :: r) = .error .badOption := by
  simp [dec, h0, h1]

/-- `badOption` comes from this tag byte or from a nested option: the unconditional
`↔ b ≠ 0 ∧ b ≠ 1` is false, see the `example`. -/
theorem dec_option_badOption_iff (t : Ty) (b : Byte) (r : List Byte) :
    dec (.option t) (b :: r) = .error .badOption ↔
      (b ≠ 0 ∧ b ≠ 1) ∨ (b = 1 ∧ dec t r = .error .badOption) := by
  simp only [dec]
  by_cases h0 : b = 0
  · simp [h0]
  by_cases h1 : b = 1
  · cases dec t r <;> simp [h1]
  · simp [h0, h1]

example : dec (.option (.option .bool)) [1, 2] = .error .badOption := by rfl

theorem dec_option_badOption_iff' (t : Ty) (b : Byte) (r : List Byte)
    (ht : dec t r ≠ .error .badOption) :
    dec (.option t) (b :: r) = .error .badOption ↔ b ≠ 0 ∧ b ≠ 1 := by
  rw [dec_option_badOption_iff]
  exact ⟨fun h => h.resolve_right fun h' => ht h'.2, .inl⟩

theorem dec_str_badUtf8_iff (bs : List Byte) :
    dec .str bs = .error .badUtf8 ↔
      ∃ sz r, decVarint 64 bs = .ok (sz, r) ∧ sz ≤ r.length ∧ utf8Valid (r.take sz) = false := by
  simp only [dec]
  cases hd : decVarint 64 bs with
  | error e => rcases decVarint_error_kinds hd with rfl | rfl <;> simp
  | ok x =>
    obtain ⟨sz, r⟩ := x
    refine Iff.trans ?_ exists_ok_pair.symm
    by_cases hl : r.length < sz
    · simp only [takeN_short hl]
      exact ⟨nofun, fun h => absurd h.1 (Nat.not_le.2 hl)⟩
    simp only [takeN, hl, if_false, Nat.le_of_not_lt hl, true_and]
    cases utf8Valid (r.take sz) <;> simp

def OneScalar (s : List Byte) : Prop := ∃ c, isScalar c = true ∧ s = utf8Encode c

theorem oneScalar_iff (s : List Byte) :
    OneScalar s ↔ utf8Valid s = true ∧ ∃ c, utf8Next s = some (c, []) := by
  constructor
  · rintro ⟨c, hs, rfl⟩
    exact ⟨utf8Valid_encode hs, c, utf8Next_encode_nil hs⟩
  · rintro ⟨_, c, hn⟩
    obtain ⟨hs, he⟩ := utf8Next_sound hn
    exact ⟨c, hs, by simpa using he⟩

theorem dec_char_badChar_iff (bs : List Byte) :
    dec .char bs = .error .badChar ↔
      ∃ sz r, decVarint 64 bs = .ok (sz, r) ∧
        (sz > 4 ∨ (sz ≤ r.length ∧ ¬ OneScalar (r.take sz))) := by
  simp only [dec, decChar]
  cases hd : decVarint 64 bs with
  | error e => rcases decVarint_error_kinds hd with rfl | rfl <;> simp
  | ok x =>
    obtain ⟨sz, r⟩ := x
    refine Iff.trans ?_ exists_ok_pair.symm
    by_cases h4 : sz > 4
    · simp [h4]
    by_cases hl : r.length < sz
    · simp only [h4, takeN_short hl, if_false, false_or]
      exact ⟨nofun, fun h => absurd h.1 (Nat.not_le.2 hl)⟩
    simp only [h4, takeN, hl, if_false, false_or, Nat.le_of_not_lt hl, true_and, oneScalar_iff]
    cases hu : utf8Valid (r.take sz) with
    | false => simp
    | true =>
      simp only [if_true, true_and]
      match utf8Next (r.take sz) with
      | some (c, []) => simp
      | none | some (_, _ :: _) => simp

/-- the right-hand side is "over-long or over-range": `decVarint_badVarint_iff`. -/
theorem dec_uN_badVarint_iff {w : IntW} (hw : w ≠ .w8) (bs : List Byte) :
    dec (.u w) bs = .error .badVarint ↔ decVarint w.bits bs = .error .badVarint :=
  dec_uN_error_iff hw bs _

theorem dec_iN_badVarint_iff {w : IntW} (hw : w ≠ .w8) (bs : List Byte) :
    dec (.i w) bs = .error .badVarint ↔ decVarint w.bits bs = .error .badVarint :=
  dec_iN_error_iff hw bs _

theorem dec_uN_unexpectedEnd_iff {w : IntW} (hw : w ≠ .w8) (bs : List Byte) :
    dec (.u w) bs = .error .unexpectedEnd ↔
      (∀ b ∈ bs, 128 ≤ b.toNat) ∧ bs.length < varintMax w.bits :=
  (dec_uN_error_iff hw bs _).trans decVarint_unexpectedEnd_iff

-- rows of the specification's Canonicalization table

example : dec (.u .w16) [0x00] = .ok (.u .w16 0, []) := by rfl
example : dec (.u .w16) [0x80, 0x00] = .ok (.u .w16 0, []) := by rfl
example : dec (.u .w16) [0x80, 0x80, 0x00] = .ok (.u .w16 0, []) := by rfl
example : dec (.u .w16) [0x80, 0x80, 0x80, 0x00] = .error .badVarint := by rfl
example : dec (.u .w16) [0xFF, 0xFF, 0x03] = .ok (.u .w16 65535, []) := by rfl
example : dec (.u .w16) [0xFF, 0xFF, 0x07] = .error .badVarint := by rfl
example : dec (.u .w16) [0xFF, 0xFF, 0x83, 0x00] = .error .badVarint := by rfl
example : dec .char [1, 0x61] = .ok (.char 0x61, []) := by rfl
example : dec .char [2, 0x61, 0x62] = .error .badChar := by rfl
example : dec .char [5, 0x61, 0x62, 0x63, 0x64, 0x65] = .error .badChar := by rfl
example : dec .char [0] = .error .badChar := by rfl
example : dec (.tuple [.str, .u .w16]) [2, 0x68, 0x69, 0x80, 0x01] =
    .ok (.tuple [.str [0x68, 0x69], .u .w16 128], []) := by rfl
example : dec (.tuple [.str, .u .w16]) [2, 0x68, 0x69, 0x80] = .error .unexpectedEnd := by rfl
example : dec (.tuple [.str, .u .w16]) [2, 0x68] = .error .unexpectedEnd := by rfl
example : dec (.tuple [.str, .u .w16]) [] = .error .unexpectedEnd := by rfl
example : dec (.option .bool) [1, 1, 0xAA, 0xBB] = .ok (.some (.bool true), [0xAA, 0xBB]) := by rfl
example : Permitted (.u .w16) (.u .w16 0) [0x80, 0x00] :=
  permitted_of_dec (r := []) (by rfl)
example : dec .bool [2] = .error .badBool := (dec_bool_badBool_iff 2 []).2 (by decide)

end Postcard
