import Postcard.Props.C03
import Postcard.Model.SizeHint
/-
  Postcard.Props.C04 — the logic part of "Decoding untrusted bytes is total,
  in-bounds and resource-bounded".
-/
namespace Postcard

/-- **C04.1** `dec` never ends in a panic … -/
theorem dec_total (t : Ty) (bs : List Byte) : dec t bs ≠ .error .panic := by
  intro h
  have := dec_error_kinds t bs _ h
  simp [DecErr] at this

/-- … nor in an error kind that belongs to the serializer or to a framing layer. -/
theorem dec_no_foreign_error (t : Ty) (bs : List Byte) :
    dec t bs ≠ .error .bufferFull ∧ dec t bs ≠ .error .seqLengthUnknown ∧
    dec t bs ≠ .error .collectStr ∧ dec t bs ≠ .error .badEncoding ∧
    dec t bs ≠ .error .badCrc := by
  refine ⟨?_, ?_, ?_, ?_, ?_⟩ <;>
  · intro h
    have := dec_error_kinds t bs _ h
    simp [DecErr] at this

theorem dec_outcome (t : Ty) (bs : List Byte) :
    (∃ v r, dec t bs = .ok (v, r)) ∨ (∃ e, dec t bs = .error e ∧ DecErr e) :=
  ((dec_cases t).cases bs).symm.imp_left fun ⟨v, r, _, h, _⟩ => ⟨v, r, h⟩

/-- **C04.2** what is handed back is a suffix of the input … -/
theorem dec_consumes_prefix {t : Ty} {bs r : List Byte} {v : Val}
    (h : dec t bs = .ok (v, r)) : ∃ p, bs = p ++ r :=
  (dec_sound t bs v r h).imp fun _ => And.left

theorem dec_rest_suffix {t : Ty} {bs r : List Byte} {v : Val}
    (h : dec t bs = .ok (v, r)) : r <:+ bs :=
  (dec_consumes_prefix h).imp fun _ => Eq.symm

/-- … so the cursor never passes the end. -/
theorem dec_rest_length_le {t : Ty} {bs r : List Byte} {v : Val}
    (h : dec t bs = .ok (v, r)) : r.length ≤ bs.length := by
  obtain ⟨p, rfl⟩ := dec_consumes_prefix h
  simp

theorem decTuple_consumes_prefix {ts : List Ty} {bs r : List Byte} {vs : List Val}
    (h : decTuple ts bs = .ok (vs, r)) : ∃ p, bs = p ++ r :=
  (decTuple_sound ts bs vs r h).imp fun _ => And.left

theorem dec_reads_only_prefix {t : Ty} {bs r : List Byte} {v : Val}
    (h : dec t bs = .ok (v, r)) :
    ∃ p, bs = p ++ r ∧ ∀ r', dec t (p ++ r') = .ok (v, r') := by
  obtain ⟨p, rfl⟩ := dec_consumes_prefix h
  exact ⟨p, rfl, rest_irrelevant h⟩

/-- **C04.3** a decoded string is the segment of the input that follows its length varint.  (Lists
have no addresses: the pointer-level claim is `slice_reads_in_bounds`, Props/C11.lean.) -/
theorem borrow_position_str {bs r s : List Byte} (h : dec .str bs = .ok (.str s, r)) :
    ∃ pre, bs = pre ++ s ++ r ∧ PermittedVarint 64 s.length pre ∧
      decVarint 64 bs = .ok (s.length, s ++ r) := by
  obtain ⟨_, rfl, hp⟩ := dec_sound _ _ _ _ h
  cases hp with
  | str s pre hpre =>
    exact ⟨pre, rfl, hpre, List.append_assoc .. ▸ decVarint_permitted widthOk64 hpre _⟩

theorem borrow_position_bytes {bs r s : List Byte} (h : dec .bytes bs = .ok (.bytes s, r)) :
    ∃ pre, bs = pre ++ s ++ r ∧ PermittedVarint 64 s.length pre ∧
      decVarint 64 bs = .ok (s.length, s ++ r) := by
  obtain ⟨_, rfl, hp⟩ := dec_sound _ _ _ _ h
  cases hp with
  | bytes s pre hpre =>
    exact ⟨pre, rfl, hpre, List.append_assoc .. ▸ decVarint_permitted widthOk64 hpre _⟩

theorem dec_str_shape {bs r : List Byte} {v : Val} (h : dec .str bs = .ok (v, r)) :
    ∃ s, v = .str s := by
  obtain ⟨p, rfl, hp⟩ := dec_sound _ _ _ _ h
  cases hp with
  | str s pre hpre hu => exact ⟨s, rfl⟩

theorem dec_bytes_shape {bs r : List Byte} {v : Val} (h : dec .bytes bs = .ok (v, r)) :
    ∃ s, v = .bytes s := by
  obtain ⟨p, rfl, hp⟩ := dec_sound _ _ _ _ h
  cases hp with
  | bytes s pre hpre => exact ⟨s, rfl⟩

theorem permittedTuple_split {t : Ty} {v : Val} : ∀ {ts : List Ty} {vs : List Val} {p : List Byte},
    PermittedTuple ts vs p → ∀ i, ts[i]? = some t → vs[i]? = some v →
    ∃ pre pi post, p = pre ++ pi ++ post ∧ PermittedTuple (ts.take i) (vs.take i) pre ∧
      Permitted t v pi ∧ PermittedTuple (ts.drop (i+1)) (vs.drop (i+1)) post
  | _, _, _, .nil => fun _ ht => nomatch ht
  | _, _, _, .cons _ _ _ _ p q h1 h2 => fun
    | 0, ht, hv => by
      cases ht; cases hv
      exact ⟨[], p, q, rfl, .nil, h1, h2⟩
    | i+1, ht, hv => by
      obtain ⟨pre, pi, post, rfl, h3, h4, h5⟩ := permittedTuple_split h2 i ht hv
      exact ⟨p ++ pre, pi, post, by simp only [List.append_assoc], .cons _ _ _ _ _ _ h1 h3, h4, h5⟩
termination_by structural _ vs => vs

theorem tuple_component_position {ts : List Ty} {bs r : List Byte} {vs : List Val}
    (h : decTuple ts bs = .ok (vs, r)) {i : Nat} {t : Ty} {v : Val}
    (ht : ts[i]? = some t) (hv : vs[i]? = some v) :
    ∃ pre p post, bs = pre ++ p ++ post ++ r ∧ Permitted t v p ∧
      decTuple (ts.take i) bs = .ok (vs.take i, p ++ post ++ r) ∧
      dec t (p ++ post ++ r) = .ok (v, post ++ r) ∧
      decTuple (ts.drop (i+1)) (post ++ r) = .ok (vs.drop (i+1), r) := by
  obtain ⟨q, rfl, hq⟩ := decTuple_sound _ _ _ _ h
  obtain ⟨pre, p, post, rfl, h1, h2, h3⟩ := permittedTuple_split hq i ht hv
  refine ⟨pre, p, post, rfl, h2, ?_, ?_, decTuple_complete h3 r⟩
  · simpa only [List.append_assoc] using decTuple_complete h1 (p ++ post ++ r)
  · simpa only [List.append_assoc] using dec_complete h2 (post ++ r)

/-- C04.3 for a string field of a tuple: it follows the preceding fields and its own length
varint. -/
theorem borrow_position_tuple {ts : List Ty} {bs r : List Byte} {vs : List Val}
    (h : dec (.tuple ts) bs = .ok (.tuple vs, r)) {i : Nat} {s : List Byte}
    (ht : ts[i]? = some .str) (hv : vs[i]? = some (.str s)) :
    ∃ pre len post, bs = pre ++ len ++ s ++ post ++ r ∧ PermittedVarint 64 s.length len ∧
      decTuple (ts.take i) bs = .ok (vs.take i, len ++ s ++ post ++ r) := by
  obtain ⟨q, rfl, hq⟩ := dec_sound _ _ _ _ h
  cases hq with
  | tuple _ _ _ hq =>
    obtain ⟨pre, p, post, rfl, h1, hp, _⟩ := permittedTuple_split hq i ht hv
    cases hp with
    | str s len hlen hu =>
      exact ⟨pre, len, post, by simp only [List.append_assoc], hlen,
        by simpa only [List.append_assoc] using decTuple_complete h1 (len ++ s ++ post ++ r)⟩

/-- **C04.4** the self-describing entry points are refused. -/
theorem wont_implement (bs : List Byte) :
    dec .any bs = .error .wontImplement ∧ dec .identifier bs = .error .wontImplement ∧
    dec .ignoredAny bs = .error .wontImplement := by
  simp [dec]

theorem seqSizeHint_eq (rem len : Nat) : seqSizeHint rem len = seqSizeHintF (some rem) len := rfl

/-- **C04.5a** whatever length the input claims, the hint a `Vec<T>` visitor
sees is at most the number of remaining input bytes (and is the claimed
length). -/
theorem hint_le_remaining {rem len n : Nat} (h : seqSizeHint rem len = some n) :
    n ≤ rem ∧ n = len := by
  unfold seqSizeHint at h
  split at h
  · cases h
  · cases h; omega

/-- 1048576: the 1 MiB of serde's `size_hint::cautious`; it holds for any hint, so for sequences
and maps alike. -/
theorem prealloc_le_cap (sz : Nat) (hint : Option Nat) : cautious sz hint ≤ 1048576 / sz := by
  unfold cautious
  split
  · exact Nat.zero_le _
  · exact Nat.min_le_right _ _

/-- **C04.5b** the pre-allocation for a sequence (in elements) is at most the number of
remaining input bytes, and at most 1 MiB worth of elements. -/
theorem prealloc_bound (sz rem len : Nat) :
    cautious sz (seqSizeHint rem len) ≤ rem ∧ cautious sz (seqSizeHint rem len) ≤ 1048576 / sz := by
  refine ⟨?_, prealloc_le_cap sz _⟩
  unfold cautious
  split
  · exact Nat.zero_le _
  · refine Nat.le_trans (Nat.min_le_left _ _) ?_
    cases h : seqSizeHint rem len with
    | none => exact Nat.zero_le _
    | some n => exact (hint_le_remaining h).1

theorem prealloc_bytes_le (sz : Nat) (hint : Option Nat) : cautious sz hint * sz ≤ 1048576 :=
  Nat.le_trans (Nat.mul_le_mul_right sz (prealloc_le_cap sz hint)) (Nat.div_mul_le_self _ _)

/-- the map hint is the claimed pair count unchecked against the input, so only
the 1 MiB cap applies to map pre-allocation (`prealloc_le_cap`); e.g. 10 input
bytes can reserve 65536 sixteen-byte slots. -/
example : cautious 16 (mapSizeHint (2 ^ 64 - 1)) = 65536 := by decide +kernel

/-- conservative lower bound on the number of bytes any value of a type
occupies on the wire. -/
def minBytes : Ty → Nat
  | .bool => 1
  | .u _ => 1
  | .i _ => 1
  | .f32 => 4
  | .f64 => 8
  | .char => 2
  | .str => 1
  | .bytes => 1
  | .option _ => 1
  | .unit => 0
  | .unitStruct => 0
  | .newtypeStruct t => minBytes t
  | .seq _ => 1
  | .tuple ts => minBytesSum ts
  | .tupleStruct ts => minBytesSum ts
  | .map _ _ => 1
  | .struct ts => minBytesSum ts
  | .enum _ => 1
  | .any => 0
  | .identifier => 0
  | .ignoredAny => 0
where
  minBytesSum : List Ty → Nat
    | [] => 0
    | t :: ts => minBytes t + minBytesSum ts

theorem permitted_minBytes : ∀ {t : Ty} {v : Val} {p : List Byte}, Permitted t v p →
    minBytes t ≤ p.length :=
  fun h => Permitted.rec (motive_1 := fun t _ p _ => minBytes t ≤ p.length)
    (motive_2 := fun _ _ _ _ _ => True)
    (motive_3 := fun ts _ p _ => minBytes.minBytesSum ts ≤ p.length)
    (motive_4 := fun _ _ _ _ => True) (motive_5 := fun _ _ _ _ _ => True)
    (Nat.le_refl 1) (Nat.le_refl 1)
    (fun _ => Nat.le_refl 1) -- u8
    (fun _ _ _ _ hp => hp.length_pos)
    (fun _ => Nat.le_refl 1) -- i8
    (fun _ _ _ _ hp => hp.length_pos)
    (fun _ hl => Nat.le_of_eq hl.symm) (fun _ hl => Nat.le_of_eq hl.symm) -- f32, f64
    (fun c _ _ hp => by -- char
      rw [List.length_append]
      exact Nat.add_le_add hp.length_pos (utf8Encode_length_pos c))
    (fun s _ hp _ => hp.append_pos s) (fun s _ hp => hp.append_pos s) -- str, bytes
    (fun _ => Nat.le_refl 1) (fun _ _ _ _ _ => Nat.le_add_left 1 _) -- none, some
    (Nat.le_refl 0) (Nat.le_refl 0)
    (fun _ _ _ _ ih => ih) -- newtypeStruct
    (fun _ _ _ q hp _ _ => hp.append_pos q) -- seq
    -- tuple, tupleStruct, struct
    (fun _ _ _ _ ih => ih) (fun _ _ _ _ ih => ih) (fun _ _ _ _ ih => ih)
    (fun _ _ _ _ q hp _ _ => hp.append_pos q) -- map
    (fun _ _ _ _ _ q hp _ _ _ => hp.append_pos q) -- enum
    (fun _ => trivial) (fun _ _ _ _ _ _ => trivial) (fun _ _ _ _ _ _ => trivial)
    (fun _ _ _ _ _ _ => trivial)
    (Nat.le_refl 0) -- tuple: nil, cons
    (fun _ _ _ _ _ _ _ _ ih1 ih2 => by rw [List.length_append]; exact Nat.add_le_add ih1 ih2)
    (fun _ => trivial) (fun _ _ _ _ _ _ _ _ _ => trivial)
    (fun _ _ => trivial) (fun _ _ _ _ _ _ _ _ _ _ _ _ _ _ => trivial)
    h

theorem permittedTuple_minBytes : ∀ {ts : List Ty} {vs : List Val} {p : List Byte},
    PermittedTuple ts vs p → minBytes.minBytesSum ts ≤ p.length :=
  fun h => permitted_minBytes (.tuple _ _ _ h)

theorem permittedAll_minBytes : ∀ {t : Ty} {vs : List Val} {p : List Byte},
    PermittedAll t vs p → vs.length * minBytes t ≤ p.length
  | _, _, _, .nil _ => Nat.le_of_eq (Nat.zero_mul _)
  | _, _, _, .cons _ _ _ _ _ h1 h2 => by
    rw [List.length_cons, List.length_append, Nat.succ_mul, Nat.add_comm]
    exact Nat.add_le_add (permitted_minBytes h1) (permittedAll_minBytes h2)
termination_by structural _ vs => vs

theorem permittedKV_minBytes : ∀ {k v : Ty} {kvs : List Val} {p : List Byte},
    PermittedKV k v kvs p → kvs.length / 2 * (minBytes k + minBytes v) ≤ p.length
  | _, _, _, _, .nil _ _ => Nat.le_of_eq (Nat.zero_mul _)
  | _, _, _, _, .cons _ _ _ _ _ _ _ _ h1 h2 h3 => by
    rw [length_pair_div_two, List.length_append, List.length_append, Nat.succ_mul, Nat.add_comm]
    exact Nat.add_le_add (Nat.add_le_add (permitted_minBytes h1) (permitted_minBytes h2))
      (permittedKV_minBytes h3)
termination_by structural _ _ kvs => kvs

theorem dec_minBytes {t : Ty} {bs r : List Byte} {v : Val} (h : dec t bs = .ok (v, r)) :
    minBytes t ≤ bs.length - r.length := by
  obtain ⟨p, rfl, hp⟩ := dec_sound _ _ _ _ h
  have := permitted_minBytes hp
  simp only [List.length_append]; omega

theorem elements_lt_consumed {t : Ty} {bs r : List Byte} {vs : List Val}
    (h : dec (.seq t) bs = .ok (.seq vs, r)) :
    vs.length * minBytes t + 1 ≤ bs.length - r.length := by
  obtain ⟨p, rfl, hp⟩ := dec_sound _ _ _ _ h
  cases hp with
  | seq t vs pre q hpre hq =>
    have := hpre.length_pos
    have := permittedAll_minBytes hq
    simp only [List.length_append]; omega

/-- **C04.5c** a decoded sequence whose element type occupies at least one byte
has no more elements than the input has bytes; so element count (and memory
for the elements) is bounded by the input length. -/
theorem elements_le_bytes {t : Ty} {bs r : List Byte} {vs : List Val}
    (hmin : 1 ≤ minBytes t) (h : dec (.seq t) bs = .ok (.seq vs, r)) :
    vs.length ≤ bs.length := by
  have h1 := elements_lt_consumed h
  have h2 : vs.length * 1 ≤ vs.length * minBytes t := Nat.mul_le_mul_left _ hmin
  omega

theorem pairs_le_bytes {k v : Ty} {bs r : List Byte} {kvs : List Val}
    (hmin : 1 ≤ minBytes k + minBytes v) (h : dec (.map k v) bs = .ok (.map kvs, r)) :
    kvs.length / 2 ≤ bs.length := by
  obtain ⟨p, rfl, hp⟩ := dec_sound _ _ _ _ h
  cases hp with
  | map k v kvs pre q hpre hq =>
    have := permittedKV_minBytes hq
    have h2 : kvs.length / 2 * 1 ≤ kvs.length / 2 * (minBytes k + minBytes v) :=
      Nat.mul_le_mul_left _ hmin
    simp only [List.length_append]; omega

theorem str_payload_le {bs r s : List Byte} (h : dec .str bs = .ok (.str s, r)) :
    s.length ≤ bs.length := by
  obtain ⟨pre, rfl, _⟩ := borrow_position_str h
  simp only [List.length_append]; omega

theorem bytes_payload_le {bs r s : List Byte} (h : dec .bytes bs = .ok (.bytes s, r)) :
    s.length ≤ bs.length := by
  obtain ⟨pre, rfl, _⟩ := borrow_position_bytes h
  simp only [List.length_append]; omega

/-- the hypothesis `1 ≤ minBytes t` cannot be dropped: elements that occupy no
bytes (`()`, unit structs, empty tuples) are produced `claimed length` times
from a constant number of input bytes — no memory is needed for them, but the
visitor loop runs that many times. -/
example : ∃ vs, dec (.seq .unit) [0x7F] = .ok (.seq vs, []) ∧ vs.length = 127 :=
  ⟨List.replicate 127 .unit, rfl, List.length_replicate⟩

-- The pointer arithmetic of `Slice::try_take_n` / `pop` needs the index-level flavour model
-- (Model/DeFlavor.lean): `slice_pop_in_bounds`, `slice_take_in_bounds` (Lemmas/DeFlavor.lean),
-- `slice_reads_in_bounds` (Props/C11.lean).

end Postcard
