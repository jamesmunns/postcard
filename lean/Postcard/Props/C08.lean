import Postcard.Model.Accumulator
import Postcard.Lemmas.Accumulator
/-
  C08: the COBS accumulator delivers every frame exactly once under any chunking
  (Model/Accumulator.lean mirrors source/postcard/src/accumulator.rs).
-/
namespace Postcard

variable {α : Type}

/-- **C08 `feed_conserves`.**  One `feed` call, under the invariant `idx ≤ N`:
the bytes it consumed followed by the remainder it returns are exactly the chunk
it was given, and the consumed bytes are precisely what was appended to the
buffer (`consumed`), handed to the decoder together with the buffered bytes
(`success`/`deserError`: `decF` is applied to `a.buf ++ pre ++ [0]` where
`pre ++ [0]` is the input up to and including its FIRST zero), or discarded
(`overFull`). -/
theorem feed_conserves (decF : List Byte → Option α) (a : Acc) (input : List Byte)
    (hinv : a.buf.length ≤ a.n) :
    match a.feed decF input with
    | (.consumed, a') =>
        (0 : Byte) ∉ input ∧ a' = ⟨a.n, a.buf ++ input⟩
    | (.success d rem, a') =>
        ∃ pre, input = (pre ++ [0]) ++ rem ∧ (0 : Byte) ∉ pre ∧
          decF (a.buf ++ (pre ++ [0])) = some d ∧ a' = ⟨a.n, []⟩
    | (.deserError rem, a') =>
        ∃ pre, input = (pre ++ [0]) ++ rem ∧ (0 : Byte) ∉ pre ∧
          decF (a.buf ++ (pre ++ [0])) = none ∧ a' = ⟨a.n, []⟩
    | (.overFull rem, a') =>
        (∃ c, input = c ++ rem) ∧ a' = ⟨a.n, []⟩ ∧
          ((∃ pre, input = (pre ++ [0]) ++ rem ∧ (0 : Byte) ∉ pre ∧
              a.n < a.buf.length + (pre ++ [0]).length)
            ∨ ((0 : Byte) ∉ input ∧ a.n < a.buf.length + input.length ∧
              rem = input.drop (a.n - a.buf.length)))
    | (.panic, _) => True := by
  rcases zero_cases input with h0 | ⟨pre, r, rfl, hp⟩
  · rw [feed_noZero decF h0 hinv]
    by_cases hfit : a.buf.length + input.length ≤ a.n
    · rw [if_pos hfit]; exact ⟨h0, rfl⟩
    · rw [if_neg hfit]
      exact ⟨⟨input.take (a.n - a.buf.length), (List.take_append_drop _ _).symm⟩, rfl,
        Or.inr ⟨h0, Nat.lt_of_not_le hfit, rfl⟩⟩
  · rw [feed_zero decF a hp]
    by_cases hfit : a.buf.length + pre.length + 1 ≤ a.n
    · rw [if_pos hfit]
      cases hd : decF (a.buf ++ pre ++ [0])
      all_goals
        simp only [decRes, hd]
        exact ⟨pre, by simp, hp, by simpa using hd, trivial⟩
    · rw [if_neg hfit]
      refine ⟨⟨pre ++ [0], by simp⟩, rfl, Or.inl ⟨pre, by simp, hp, ?_⟩⟩
      simp only [List.length_append, List.length_cons, List.length_nil]; omega

/-- The plain "consumed ++ remainder = input" form. -/
theorem feed_conserves_rem (decF : List Byte → Option α) (a : Acc) (input : List Byte)
    (hinv : a.buf.length ≤ a.n) (rem : List Byte)
    (h : (a.feed decF input).1.next = some rem) : ∃ c, input = c ++ rem :=
  have ⟨_, c, hc, _⟩ := feed_next decF hinv rfl h
  ⟨c, hc⟩

/-- **C08 `acc_delivers`, general form** (arbitrary starting buffer `b`; the
stream seen by the specification is `b` followed by the chunks).  For EVERY
chunk list whose segments (including their sentinel) and unterminated tail fit
the capacity: the frame outcomes of the documented loop are exactly the
isolated decodings of the zero-terminated segments of the stream, one per zero
byte, in stream order (hence never `overFull`); the final buffer is the
unterminated tail; no call panics. -/
theorem acc_delivers_from (n : Nat) (decF : List Byte → Option α) (b : List Byte)
    (chunks : List (List Byte)) (hfit : Fits n (segs b chunks.flatten)) :
    frameResults (Acc.run decF ⟨n, b⟩ chunks).1
        = (segs b chunks.flatten).1.map (isolated decF) ∧
      (Acc.run decF ⟨n, b⟩ chunks).2 = ⟨n, (segs b chunks.flatten).2⟩ ∧
      FeedRes.panic ∉ (Acc.run decF ⟨n, b⟩ chunks).1 := by
  suffices h : _ ∧ _ from ⟨h.1, h.2, (run_inv decF ⟨n, b⟩ chunks (tail_le hfit)).2⟩
  induction chunks generalizing b with
  | nil => exact ⟨rfl, rfl⟩
  | cons c cs ih =>
    rw [List.flatten_cons] at hfit ⊢
    obtain ⟨a1, a2⟩ := drainX_fits decF (2 * c.length + 2) b c (by omega) (Fits_prefix hfit)
    obtain ⟨b1, b2⟩ := ih (segs b c).2 (Fits_append hfit).2
    rw [run_cons, segs_append, drainChunk_eq, a2]
    exact ⟨by rw [frameResults_append, a1, b1, List.map_append], b2⟩

/-- **C08 `acc_delivers`.**  From the fresh accumulator `CobsAccumulator::new()`:
for every way `chunks` of cutting a stream into chunks, if every segment with
its sentinel and the unterminated tail fit the capacity `n`, the documented loop
reports exactly one outcome per zero byte, in stream order, equal to decoding
each segment in isolation, and ends with the unterminated tail buffered. -/
theorem acc_delivers (n : Nat) (decF : List Byte → Option α) (chunks : List (List Byte))
    (hfit : Fits n (segs [] chunks.flatten)) :
    frameResults (Acc.run decF ⟨n, []⟩ chunks).1
        = (segs [] chunks.flatten).1.map
            (fun s => match decF (s ++ [0]) with | some d => Outcome.ok d | none => .deserErr) ∧
      (Acc.run decF ⟨n, []⟩ chunks).2 = ⟨n, (segs [] chunks.flatten).2⟩ ∧
      FeedRes.panic ∉ (Acc.run decF ⟨n, []⟩ chunks).1 ∧
      Outcome.overFull ∉ frameResults (Acc.run decF ⟨n, []⟩ chunks).1 := by
  obtain ⟨h1, h2, h3⟩ := acc_delivers_from n decF [] chunks hfit
  refine ⟨h1, h2, h3, ?_⟩
  rw [h1, List.mem_map]
  rintro ⟨s, _, hs⟩
  unfold isolated at hs
  split at hs <;> cases hs

/-- The chunking does not matter: two chunkings of the same stream give the same
frame outcomes and the same final accumulator. -/
theorem acc_delivers_chunking_irrelevant (n : Nat) (decF : List Byte → Option α)
    (chunks chunks' : List (List Byte)) (hsame : chunks.flatten = chunks'.flatten)
    (hfit : Fits n (segs [] chunks.flatten)) :
    frameResults (Acc.run decF ⟨n, []⟩ chunks).1
        = frameResults (Acc.run decF ⟨n, []⟩ chunks').1 ∧
      (Acc.run decF ⟨n, []⟩ chunks).2 = (Acc.run decF ⟨n, []⟩ chunks').2 := by
  obtain ⟨h1, h2, _⟩ := acc_delivers_from n decF [] chunks hfit
  obtain ⟨h1', h2', _⟩ := acc_delivers_from n decF [] chunks' (hsame ▸ hfit)
  rw [h1, h2, h1', h2', hsame]
  exact ⟨rfl, rfl⟩

/-! Capacity 4, decoder "sum of the bytes before the sentinel, error on an empty
frame or a frame not ending in 0"; the stream `1 2 0 | 3 4 5 0 | 6` (two frames
and an unterminated tail) is cut in the middle of both frames and right before
a sentinel.  -/

def exampleDec (frame : List Byte) : Option Nat :=
  match frame.reverse with
  | 0 :: x :: xs => some ((x :: xs).foldl (fun acc b => acc + b.toNat) 0)
  | _ => none

/-- The hypotheses of `acc_delivers` are satisfiable by a chunking that cuts
frames in the middle … -/
example : Fits 4 (segs [] [[1], [2, 0, 3, 4], [5], [0, 6]].flatten) := by
  refine ⟨?_, ?_⟩ <;> decide

/-- … the specification side of that stream … -/
example : segs [] [[1], [2, 0, 3, 4], [5], [0, 6]].flatten = ([[1, 2], [3, 4, 5]], [6]) := by
  decide +kernel

/-- … and the model, evaluated, does deliver both frames once and keeps the tail. -/
example :
    (frameResults (Acc.run exampleDec ⟨4, []⟩ [[1], [2, 0, 3, 4], [5], [0, 6]]).1,
      (Acc.run exampleDec ⟨4, []⟩ [[1], [2, 0, 3, 4], [5], [0, 6]]).2)
      = ([.ok 3, .ok 12], ⟨4, [6]⟩) := by
  decide +kernel

/-- The raw feed results of the same run (every call, including `consumed`). -/
example :
    (Acc.run exampleDec ⟨4, []⟩ [[1], [2, 0, 3, 4], [5], [0, 6]]).1
      = [.consumed, .success 3 [3, 4], .consumed, .consumed, .success 12 [6], .consumed] := by
  decide +kernel

/-- The capacity bound is sharp: with capacity 3 the second frame (3 bytes + its
sentinel) is reported `overFull`, so the `Fits` hypothesis cannot be dropped. -/
example :
    frameResults (Acc.run exampleDec ⟨3, []⟩ [[1], [2, 0, 3, 4], [5], [0, 6]]).1
      = [.ok 3, .overFull] := by
  decide +kernel

end Postcard
