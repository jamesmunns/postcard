import Postcard.Model.EntryFramed
import Postcard.Props.C20
/-
  C05 ("bounded-buffer serialisation: exact capacity threshold, never out of bounds") for the
  FRAMED fixed storages; the plain case is `to_slice_threshold` / `to_hvec_threshold`
  (Lemmas/Flavor.lean).

  The COBS thresholds (`Atomic.Indexed.toCobsWith_cases`): over `Atomic.Indexed.refusing` the run
  `try_new; try_extend; finalize` is either refused at one of its three stages with
  `SerializeBufferFull`, the storage then being full and the frame longer than the capacity, or
  ends with the reference frame returned and accepted by the storage, so the frame fits the
  capacity (`cobs_run_refusing`).  On the way the accepted bytes are NOT a prefix of the frame:
  they are its closed blocks, then a placeholder `0` where the code byte of the open block will
  be patched in, then that block's data (`Writing`); the invariant counts them: as many pushes
  may still be asked of the storage as bytes of the frame are missing.
-/
namespace Postcard
open Spec

/-- **C05, `to_slice_uN`.**  Success exactly when the buffer holds the plain
encoding plus the `n = size_of::<uN>()` checksum bytes, and then the returned
slice is `enc v ++ checksum`; otherwise `SerializeBufferFull` (never a panic,
never another error). -/
theorem to_slice_crc_threshold {w : Nat} (alg : CrcAlg w) (n : Nat) (buf : List Byte) (v : Val) :
    (toSliceCrc alg n buf v).2 =
      if (enc v).length + n ≤ buf.length then
        .ok (enc v ++ leBytes n (crc alg (enc v)).toNat)
      else .error .bufferFull := by
  rw [toSliceCrc, (stack_composes alg n Slice ⟨buf, 0⟩ v).2,
    Slice.atomic.runBytes_eq (Nat.zero_le _)]
  simp only [Slice.atomic, Nat.zero_add, writeAt_zero, List.take_left', List.length_append,
    leBytes_length]

/-- **C05, `to_slice_uN`: the caller's buffer afterwards.**  Whatever the
outcome, the buffer keeps its length and holds the first `buf.length` bytes of
the frame `enc v ++ checksum` followed by its own untouched tail: on success
the whole frame then the old tail, on failure it is filled to the brim with the
frame's prefix (the checksum modifier pushes byte by byte). -/
theorem to_slice_crc_buffer {w : Nat} (alg : CrcAlg w) (n : Nat) (buf : List Byte) (v : Val) :
    (toSliceCrc alg n buf v).1 =
        (enc v ++ leBytes n (crc alg (enc v)).toNat).take buf.length
          ++ buf.drop ((enc v).length + n) ∧
    (toSliceCrc alg n buf v).1.length = buf.length := by
  have hmem : (toSliceCrc alg n buf v).1 =
      (enc v ++ leBytes n (crc alg (enc v)).toNat).take buf.length
        ++ buf.drop ((enc v).length + n) := by
    rw [toSliceCrc, (stack_composes alg n Slice ⟨buf, 0⟩ v).1,
      Slice.atomic.runBytes_eq (Nat.zero_le _)]
    show writeAt buf 0 (List.take (buf.length - 0) _) = _
    rw [writeAt_zero, Nat.sub_zero, List.length_take, List.length_append, leBytes_length]
    by_cases h : (enc v).length + n ≤ buf.length
    · rw [Nat.min_eq_right h]
    · rw [Nat.min_eq_left (by omega), List.drop_of_length_le (Nat.le_refl _),
        List.drop_of_length_le (by omega)]
  refine ⟨hmem, ?_⟩
  rw [hmem]
  simp only [List.length_append, List.length_take, List.length_drop, leBytes_length]
  omega

/-- **C05, `to_vec_uN::<_, B>`** (`B = cap`): same threshold. -/
theorem to_hvec_crc_threshold {w : Nat} (alg : CrcAlg w) (n : Nat) (cap : Nat) (v : Val) :
    toHVecCrc alg n cap v =
      if (enc v).length + n ≤ cap then .ok (enc v ++ leBytes n (crc alg (enc v)).toNat)
      else .error .bufferFull := by
  rw [toHVecCrc, (stack_composes alg n HVec ⟨cap, []⟩ v).2,
    HVec.atomic.runBytes_eq (Nat.zero_le _)]
  simp only [HVec.atomic, List.length_nil, Nat.zero_add, List.length_append, leBytes_length,
    List.nil_append]

/-- `to_vec_uN`: the vector never exceeds its capacity; it ends up holding the
first `cap` bytes of the frame. -/
theorem to_hvec_crc_within_capacity {w : Nat} (alg : CrcAlg w) (n : Nat) (cap : Nat) (v : Val) :
    (serializeWith (CrcSer alg n HVec) (⟨cap, []⟩, alg.init) v).1.1 =
      ⟨cap, (enc v ++ leBytes n (crc alg (enc v)).toNat).take cap⟩ := by
  rw [(stack_composes alg n HVec ⟨cap, []⟩ v).1,
    HVec.atomic.runBytes_eq (Nat.zero_le _)]
  rfl

/-- `to_slice_cobs` / `to_vec_cobs` over an arbitrary storage: `Cobs::try_new(storage)?`, then
`serialize_with_flavor` (the two entry points are this with `F := Slice` / `HVec`). -/
def toCobsWith {σ : Type} (F : Flavor σ (List Byte)) (s0 : σ) (v : Val) : σ × R (List Byte) :=
  match Cobs.tryNew F s0 with
  | (st, some e) => (st.1, .error e)
  | (st, none) => ((serializeWith (Cobs F) st v).1.1, (serializeWith (Cobs F) st v).2)

/-- The capacity decides: the frame is returned iff it fits, the storage then being `s0` with the
frame accepted; otherwise `SerializeBufferFull` (from `try_new` or from a later push) with the
storage filled to its capacity. -/
theorem Atomic.Indexed.toCobsWith_cases {σ : Type} {F : Flavor σ (List Byte)} {A : Atomic F}
    {L : LawfulIdx F} {s0 : σ} (I : A.Indexed L s0) (v : Val) :
    ((cobsEncode (enc v)).length + 1 ≤ A.cap s0 ∧
      toCobsWith F s0 v =
        (A.app s0 (cobsEncode (enc v) ++ [0]), .ok (cobsEncode (enc v) ++ [0]))) ∨
    (¬ (cobsEncode (enc v)).length + 1 ≤ A.cap s0 ∧
      ∃ l, l.length = A.cap s0 ∧ toCobsWith F s0 v = (A.app s0 l, .error .bufferFull)) := by
  have hser := plain_composes (Cobs F) (cobs_tryExtend F)
  have h0 : L.log s0 = [] := by have := I.log_app []; rwa [A.app_nil] at this
  rcases cobs_run_refusing (I.refusing ((cobsEncode (enc v)).length + 1)) h0 (enc v)
      ⟨[], Nat.zero_le _, Nat.zero_add _, (A.app_nil s0).symm⟩ with
    ⟨st, h1, hx⟩ | ⟨st1, h1, ⟨st, h2, hx⟩ |
      ⟨st2, h2, ⟨st, h3, hx⟩ | ⟨s3, h3, ⟨l, hl, hK, rfl⟩, hl3⟩⟩⟩
  case inr.inr.inr =>
    -- a run that is never refused has accepted the whole frame
    rw [I.log_app] at hl3
    subst hl3
    rw [A.finalize_eq] at h3
    exact .inl ⟨hK ▸ hl, by simp only [toCobsWith, h1, hser, Flavor.runBytes, h2, h3]⟩
  all_goals
    obtain ⟨hlt, l, hl, hst⟩ := hx
    exact .inr ⟨Nat.not_le.2 hlt, l, hl, by simp only [toCobsWith, Flavor.runBytes, *]⟩

/-- **C05, `to_slice_cobs`, complete description.**  With
`frame = cobsEncode (enc v) ++ [0]`:
* the buffer is at least as long as the frame: `Ok(frame)`, the caller's buffer
  holds the frame followed by its own untouched tail, cursor right after the
  frame;
* otherwise: `SerializeBufferFull` — not a panic (the `IndexMut` back-patch of
  a code byte always lands inside the bytes already written), not another
  error — the buffer keeps its length and has been filled up to its end
  (the modifier pushes byte by byte and gives up exactly when the buffer is
  full). -/
theorem to_slice_cobs_cases (v : Val) (buf : List Byte) :
    ((cobsEncode (enc v)).length + 1 ≤ buf.length ∧
      toSliceCobs v buf =
        (⟨cobsEncode (enc v) ++ [0] ++ buf.drop ((cobsEncode (enc v)).length + 1),
          (cobsEncode (enc v)).length + 1⟩, .ok (cobsEncode (enc v) ++ [0]))) ∨
    (¬ (cobsEncode (enc v)).length + 1 ≤ buf.length ∧
      (toSliceCobs v buf).2 = .error .bufferFull ∧
      (toSliceCobs v buf).1.mem.length = buf.length ∧
      (toSliceCobs v buf).1.cursor = buf.length) := by
  have he : toSliceCobs v buf = toCobsWith Slice ⟨buf, 0⟩ v := by
    unfold toSliceCobs toCobsWith
    rcases Cobs.tryNew Slice ⟨buf, 0⟩ with ⟨st, _ | e⟩ <;> rfl
  rw [he]
  rcases (Slice.indexed buf).toCobsWith_cases v with ⟨hfit, hres⟩ | ⟨hnot, l, hl, hres⟩
  · refine .inl ⟨hfit, hres.trans ?_⟩
    simp only [Slice.atomic, writeAt_zero, Nat.zero_add, List.length_append, List.length_singleton]
  · rw [hres]
    exact .inr ⟨hnot, rfl, writeAt_length (Nat.le_of_eq ((Nat.zero_add _).trans hl)),
      (Nat.zero_add _).trans hl⟩

/-- **C05, `to_slice_cobs`: exact threshold.**  Success exactly when the buffer
holds the complete frame (COBS body plus the sentinel zero), and then the
returned slice is that frame; otherwise `SerializeBufferFull` — never a panic,
never another error. -/
theorem to_slice_cobs_threshold (v : Val) (buf : List Byte) :
    (toSliceCobs v buf).2 =
      if (cobsEncode (enc v)).length + 1 ≤ buf.length then .ok (cobsEncode (enc v) ++ [0])
      else .error .bufferFull := by
  rcases to_slice_cobs_cases v buf with ⟨h, he⟩ | ⟨h, he, _⟩
  · rw [if_pos h, he]
  · rw [if_neg h, he]

/-- **C05, `to_slice_cobs`: never out of bounds, nothing beyond the cursor is
touched.**  Whatever the outcome, the caller's buffer keeps its length, the
cursor stays inside it, and the cells from the cursor on are the caller's
original bytes. -/
theorem to_slice_cobs_in_bounds (v : Val) (buf : List Byte) :
    (toSliceCobs v buf).1.mem.length = buf.length ∧ (toSliceCobs v buf).1.cursor ≤ buf.length ∧
    (toSliceCobs v buf).1.mem.drop (toSliceCobs v buf).1.cursor
      = buf.drop (toSliceCobs v buf).1.cursor := by
  rcases to_slice_cobs_cases v buf with ⟨h, he⟩ | ⟨h, _, hm, hc⟩
  · rw [he]
    refine ⟨?_, h, ?_⟩
    · simp only [List.length_append, List.length_cons, List.length_nil, List.length_drop]; omega
    · simp only
      rw [List.drop_left' (by simp)]
  · refine ⟨hm, by omega, ?_⟩
    rw [hc, List.drop_of_length_le (by omega), List.drop_of_length_le (Nat.le_refl _)]

/-- **C05, `to_vec_cobs::<_, B>`, complete description** (`B = cap`). -/
theorem to_hvec_cobs_cases (cap : Nat) (v : Val) :
    ((cobsEncode (enc v)).length + 1 ≤ cap ∧
      toHVecCobs cap v = (⟨cap, cobsEncode (enc v) ++ [0]⟩, .ok (cobsEncode (enc v) ++ [0]))) ∨
    (¬ (cobsEncode (enc v)).length + 1 ≤ cap ∧
      (toHVecCobs cap v).2 = .error .bufferFull ∧
      (toHVecCobs cap v).1.cap = cap ∧ (toHVecCobs cap v).1.vec.length = cap) := by
  have he : toHVecCobs cap v = toCobsWith HVec ⟨cap, []⟩ v := by
    unfold toHVecCobs toCobsWith
    rcases Cobs.tryNew HVec ⟨cap, []⟩ with ⟨st, _ | e⟩ <;> rfl
  rw [he]
  rcases (HVec.indexed cap).toCobsWith_cases v with ⟨hfit, hres⟩ | ⟨hnot, l, hl, hres⟩
  · exact .inl ⟨hfit, hres⟩
  · rw [hres]
    exact .inr ⟨hnot, rfl, rfl, hl⟩

/-- **C05, `to_vec_cobs::<_, B>`: exact threshold** (`B = cap`). -/
theorem to_hvec_cobs_threshold (cap : Nat) (v : Val) :
    (toHVecCobs cap v).2 =
      if (cobsEncode (enc v)).length + 1 ≤ cap then .ok (cobsEncode (enc v) ++ [0])
      else .error .bufferFull := by
  rcases to_hvec_cobs_cases cap v with ⟨h, he⟩ | ⟨h, he, _⟩
  · rw [if_pos h, he]
  · rw [if_neg h, he]

/-- `to_vec_cobs`: the vector keeps its capacity and never exceeds it. -/
theorem to_hvec_cobs_within_capacity (cap : Nat) (v : Val) :
    (toHVecCobs cap v).1.cap = cap ∧ (toHVecCobs cap v).1.vec.length ≤ cap := by
  rcases to_hvec_cobs_cases cap v with ⟨h, he⟩ | ⟨_, _, hc, hl⟩
  · rw [he]; exact ⟨rfl, by simpa using h⟩
  · exact ⟨hc, by omega⟩

/-- the COBS threshold in terms of the plain size `k = |enc v|` (=
`serialized_size`, `size_exact`): `k + k/254 + 2` bytes always suffice, fewer
than `k + 2` never do. -/
theorem to_slice_cobs_size_bounds (v : Val) (buf : List Byte) :
    ((enc v).length + (enc v).length / 254 + 2 ≤ buf.length →
      (toSliceCobs v buf).2 = .ok (cobsEncode (enc v) ++ [0])) ∧
    (buf.length < (enc v).length + 2 → (toSliceCobs v buf).2 = .error .bufferFull) := by
  obtain ⟨h1, h2, _⟩ := frame_length (enc v)
  rw [to_slice_cobs_threshold]
  constructor
  · intro h; rw [if_pos (by omega)]
  · intro h; rw [if_neg (by omega)]

/-- the thresholds in one line: what a failing framed `to_slice_*` / `to_vec_*`
returns is ALWAYS `SerializeBufferFull`, in particular never the modelled
panic. -/
theorem framed_fixed_never_panic {w : Nat} (alg : CrcAlg w) (n : Nat) (v : Val) (buf : List Byte)
    (cap : Nat) :
    (toSliceCobs v buf).2 ≠ .error .panic ∧ (toHVecCobs cap v).2 ≠ .error .panic ∧
    (toSliceCrc alg n buf v).2 ≠ .error .panic ∧ toHVecCrc alg n cap v ≠ .error .panic := by
  rw [to_slice_cobs_threshold, to_hvec_cobs_threshold, to_slice_crc_threshold,
    to_hvec_crc_threshold]
  refine ⟨?_, ?_, ?_, ?_⟩ <;> split <;> simp

/-! `C01.exV`: `enc` = 8 bytes, COBS frame = 10 bytes, CRC-32 frame = 12 bytes.
Capacities L−1, L, L+1 through the model. -/

private instance decEqRFramed {α : Type} [DecidableEq α] : DecidableEq (R α)
  | .ok a, .ok b =>
    if h : a = b then isTrue (by rw [h]) else isFalse (by intro h'; cases h'; exact h rfl)
  | .error a, .error b =>
    if h : a = b then isTrue (by rw [h]) else isFalse (by intro h'; cases h'; exact h rfl)
  | .ok _, .error _ => isFalse (by intro h; cases h)
  | .error _, .ok _ => isFalse (by intro h; cases h)

example : (cobsEncode (enc C01.exV)).length + 1 = 10 := by decide +kernel

-- `to_slice_cobs`: 9 bytes fail (all nine cells written, the final sentinel does not fit;
-- the code byte has already been back-patched), 10 succeed, 11 keep their last cell.
example : toSliceCobs C01.exV (List.replicate 9 0xFF)
    = (⟨[9, 0xAC, 0x02, 1, 2, 0x68, 0x69, 1, 3], 9⟩, .error .bufferFull) := by rfl
example : toSliceCobs C01.exV (List.replicate 10 0xFF)
    = (⟨[9, 0xAC, 0x02, 1, 2, 0x68, 0x69, 1, 3, 0], 10⟩,
        .ok [9, 0xAC, 0x02, 1, 2, 0x68, 0x69, 1, 3, 0]) := by rfl
example : toSliceCobs C01.exV (List.replicate 11 0xFF)
    = (⟨[9, 0xAC, 0x02, 1, 2, 0x68, 0x69, 1, 3, 0, 0xFF], 10⟩,
        .ok [9, 0xAC, 0x02, 1, 2, 0x68, 0x69, 1, 3, 0]) := by rfl
-- the COBS modifier pushes byte by byte: a 5-byte buffer is filled completely
-- (plain `to_slice` stops after 4 bytes, see Props/C05.lean)
example : toSliceCobs C01.exV (List.replicate 5 0xFF)
    = (⟨[0, 0xAC, 0x02, 1, 2], 5⟩, .error .bufferFull) := by rfl
-- the empty buffer: `Cobs::try_new` itself fails
example : toSliceCobs C01.exV [] = (⟨[], 0⟩, .error .bufferFull) := by rfl
example : toHVecCobs 9 C01.exV
    = (⟨9, [9, 0xAC, 0x02, 1, 2, 0x68, 0x69, 1, 3]⟩, .error .bufferFull) := by rfl
example : toHVecCobs 10 C01.exV
    = (⟨10, [9, 0xAC, 0x02, 1, 2, 0x68, 0x69, 1, 3, 0]⟩,
        .ok [9, 0xAC, 0x02, 1, 2, 0x68, 0x69, 1, 3, 0]) := by rfl
example : (toHVecCobs 11 C01.exV).2 = .ok [9, 0xAC, 0x02, 1, 2, 0x68, 0x69, 1, 3, 0] := by rfl
-- the theorem, instantiated on both sides of the threshold
example : (toSliceCobs C01.exV (List.replicate 9 0xFF)).2 = .error .bufferFull := by
  rw [to_slice_cobs_threshold]; decide
example : (toSliceCobs C01.exV (List.replicate 10 0xFF)).2
    = .ok (cobsEncode (enc C01.exV) ++ [0]) := by
  rw [to_slice_cobs_threshold]; decide

-- `to_slice_u32` / `to_vec_u32` with CRC-32/ISO-HDLC: 11 fail, 12 succeed, 13 keep the last cell
example : (enc C01.exV).length + 4 = 12 := by decide +kernel
example : toSliceCrc CRC_32_ISO_HDLC 4 (List.replicate 11 0xFF) C01.exV
    = ([0xAC, 0x02, 1, 2, 0x68, 0x69, 1, 3, 254, 243, 69], .error .bufferFull) := by
  decide +kernel
example : toSliceCrc CRC_32_ISO_HDLC 4 (List.replicate 12 0xFF) C01.exV
    = ([0xAC, 0x02, 1, 2, 0x68, 0x69, 1, 3, 254, 243, 69, 135],
       .ok [0xAC, 0x02, 1, 2, 0x68, 0x69, 1, 3, 254, 243, 69, 135]) := by decide +kernel
example : toSliceCrc CRC_32_ISO_HDLC 4 (List.replicate 13 0xFF) C01.exV
    = ([0xAC, 0x02, 1, 2, 0x68, 0x69, 1, 3, 254, 243, 69, 135, 0xFF],
       .ok [0xAC, 0x02, 1, 2, 0x68, 0x69, 1, 3, 254, 243, 69, 135]) := by decide +kernel
example : toHVecCrc CRC_32_ISO_HDLC 4 11 C01.exV = .error .bufferFull := by decide +kernel
example : toHVecCrc CRC_32_ISO_HDLC 4 12 C01.exV
    = .ok [0xAC, 0x02, 1, 2, 0x68, 0x69, 1, 3, 254, 243, 69, 135] := by decide +kernel
example : toHVecCrc CRC_32_ISO_HDLC 4 13 C01.exV
    = .ok [0xAC, 0x02, 1, 2, 0x68, 0x69, 1, 3, 254, 243, 69, 135] := by decide +kernel
example : Slice.runBytes ⟨[7, 7, 7, 7], 1⟩ [1, 2, 3] = (⟨[7, 1, 2, 3], 4⟩, .ok [7, 1, 2, 3]) := by
  rfl
example : Slice.runBytes ⟨[7, 7, 7, 7], 1⟩ [1, 2, 3, 4]
    = (⟨[7, 1, 2, 3], 4⟩, .error .bufferFull) := by rfl
example : HVec.runBytes ⟨3, [9]⟩ [1, 2, 3] = (⟨3, [9, 1, 2]⟩, .error .bufferFull) := by rfl

end Postcard

/- Not attempted: the exact CONTENT of the caller's buffer after a FAILED
`to_slice_cobs` — it is a partial frame whose pending code byte is still the
placeholder or already back-patched, see the 9-byte and 5-byte examples above;
only its length, the cursor position `= buf.length` and the no-panic result are
proved. -/
