import Postcard.Model.EnumAt
import Postcard.Props.C01
import Postcard.Props.C04
/-
  Postcard.Props.C01EnumAt — round trip for enums with ANY `u32` discriminant (sparse or wide:
  5-byte varints), decoded by a visitor that accepts that one discriminant.
-/
namespace Postcard

theorem decVariant_skip (pre : List Ty) (vt : Ty) (post : List Ty) (idx : Nat) (bs : List Byte) :
    decVariant (pre ++ vt :: post) pre.length idx bs = decVariant [vt] 0 idx bs :=
  decVariant_some _ _ idx bs vt (by simp)

theorem decEnumAt_encVarint {idx : Nat} (h : idx < 2 ^ 32) (vt : Ty) (bs : List Byte) :
    decEnumAt idx vt (encVarint 32 idx ++ bs) = decVariant [vt] 0 idx bs := by
  rw [decEnumAt, decVarint_encVarint widthOk32 h]
  exact if_pos rfl

/-- **C01 (wide discriminants)**: for EVERY discriminant `idx < 2^32` and every payload,
decoding the encoding (followed by any bytes) with the one-discriminant visitor gives the value
back and exactly the following bytes. -/
theorem roundtrip_enumAt (idx : Nat) (vt : Ty) (v : Val) (h : hasTyAt idx vt v = true)
    (rest : List Byte) : decEnumAt idx vt (enc v ++ rest) = .ok (v, rest) := by
  cases v with
  | unitVariant i =>
    simp only [hasTyAt, Bool.and_eq_true, decide_eq_true_eq] at h
    obtain ⟨⟨rfl, hlt⟩, hvt⟩ := h
    split at hvt
    · exact decEnumAt_encVarint hlt .unit rest
    · cases hvt
  | newtypeVariant i v =>
    simp only [hasTyAt, Bool.and_eq_true, decide_eq_true_eq] at h
    obtain ⟨⟨rfl, hlt⟩, hvt⟩ := h
    split at hvt
    · next t =>
      show decEnumAt i _ (encVarint 32 i ++ enc v ++ rest) = _
      rw [List.append_assoc, decEnumAt_encVarint hlt, decVariant, roundtrip v t hvt rest]
    · cases hvt
  | tupleVariant i vs | structVariant i vs =>
    simp only [hasTyAt, Bool.and_eq_true, decide_eq_true_eq] at h
    obtain ⟨⟨rfl, hlt⟩, hvt⟩ := h
    split at hvt
    · next ts =>
      show decEnumAt i _ (encVarint 32 i ++ encList vs ++ rest) = _
      rw [List.append_assoc, decEnumAt_encVarint hlt, decVariant, roundtrip_tuple vs ts hvt rest]
    · cases hvt
  | _ => cases h

theorem decEnumAt_eq_dec (pre : List Ty) (vt : Ty) (post : List Ty) (bs : List Byte) :
    decEnumAt pre.length vt bs =
      match decVarint 32 bs with
      | .error e => .error e
      | .ok (n, _) =>
        if n = pre.length then dec (.enum (pre ++ vt :: post)) bs else .error .custom := by
  unfold decEnumAt
  cases hd : decVarint 32 bs with
  | error e => rfl
  | ok x =>
    obtain ⟨n, r⟩ := x
    by_cases hn : n = pre.length
    · subst hn
      simp [dec, hd, decVariant_skip]
    · simp [hn]

/-- **C03 / C04 transported to wide discriminants**: the one-discriminant visitor accepts exactly
when the index varint decodes to `idx` and the derived enum with `idx` unit variants in front of
`vt` accepts - so everything proved about `dec` (soundness and completeness against `Permitted`,
prefix behaviour, named error kinds: C03; totality: C04) holds for it. -/
theorem decEnumAt_ok_iff (idx : Nat) (vt : Ty) (bs : List Byte) (v : Val) (r : List Byte) :
    decEnumAt idx vt bs = .ok (v, r) ↔
      (∃ r0, decVarint 32 bs = .ok (idx, r0)) ∧
        dec (.enum (List.replicate idx .unit ++ [vt])) bs = .ok (v, r) := by
  have h := decEnumAt_eq_dec (List.replicate idx .unit) vt [] bs
  rw [List.length_replicate] at h
  rw [h]
  cases hd : decVarint 32 bs with
  | error e => simp [dec, hd]
  | ok x =>
    obtain ⟨n, r0⟩ := x
    by_cases hn : n = idx <;> simp [hn]

theorem decEnumAt_total (idx : Nat) (vt : Ty) (bs : List Byte) :
    decEnumAt idx vt bs ≠ .error .panic := by
  have ht := dec_total (.enum (List.replicate idx .unit ++ [vt])) bs
  have h := decEnumAt_eq_dec (List.replicate idx .unit) vt [] bs
  rw [List.length_replicate] at h
  rw [h]
  cases hd : decVarint 32 bs with
  | error e => simpa only [dec, hd] using ht
  | ok x =>
    dsimp only
    split
    · exact ht
    · nofun

-- `2 ^ 28` is the least discriminant whose varint has five bytes
example : decEnumAt (2 ^ 28) (.newtypeStruct (.u .w8)) [0x80, 0x80, 0x80, 0x80, 0x01, 7, 9] =
    .ok (.newtypeVariant (2 ^ 28) (.u .w8 7), [9]) := by rfl
example : hasTyAt (2 ^ 32 - 1) .unit (.unitVariant (2 ^ 32 - 1)) = true := by decide +kernel

end Postcard
