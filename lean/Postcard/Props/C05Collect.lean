import Postcard.Lemmas.Flavor
/-
  C05, Display-collected strings: `Serializer::collect_str` (`collectStrWith`, Model/Entry.lean)
  over the bounded storage flavours.
-/
namespace Postcard

/-- the length header `collect_str` writes, a `usize` varint. -/
abbrev collectHdr (pieces : List (List Byte)) : List Byte := encVarint 64 pieces.flatten.length

abbrev collectFull (pieces : List (List Byte)) : List Byte := collectHdr pieces ++ pieces.flatten

theorem take_flatten_prefix (ps : List (List Byte)) (k : Nat) :
    (ps.take k).flatten <+: ps.flatten :=
  ⟨(ps.drop k).flatten, by rw [← List.flatten_append, List.take_append_drop]⟩

theorem take_flatten_length_le (ps : List (List Byte)) (j : Nat) :
    (ps.take j).flatten.length ≤ ps.flatten.length :=
  (take_flatten_prefix ps j).length_le

theorem collectPieces_eq_feed {σ ω : Type} (F : Flavor σ ω) (s : σ) (ps : List (List Byte)) :
    collectPieces F s ps =
      match F.feed s (ps.map .extend) with
      | (s', none) => (s', none)
      | (s', some .panic) => (s', some .panic)
      | (s', some _) => (s', some .collectStr) := by
  induction ps generalizing s with
  | nil => rfl
  | cons p ps ih =>
    simp only [collectPieces, List.map_cons, Flavor.feed, Flavor.step]
    rcases F.tryExtend s p with ⟨s1, _ | e⟩
    · exact ih s1
    · cases e <;> rfl

section atomic
variable {σ ω : Type} {F : Flavor σ ω}

/-- `collect_str` over an all-or-nothing storage.  `written` is what the storage has taken:
everything; or nothing, when not even the header fits (`SerializeBufferFull`); or, when the header
fits and the text does not (`CollectStrError`), the header and the first `k` WHOLE pieces, `k` being
the longest run of whole pieces that fits (`j` pieces fit iff `j ≤ k`). -/
theorem Atomic.collectStrWith_eq (A : Atomic F) (s0 : σ) (hs : A.used s0 ≤ A.cap s0)
    (pieces : List (List Byte)) :
    ∃ written, written <+: collectFull pieces ∧ A.used s0 + written.length ≤ A.cap s0 ∧
      collectStrWith F s0 pieces = (A.app s0 written,
        if A.used s0 + (collectFull pieces).length ≤ A.cap s0 then
          .ok (A.out (A.app s0 (collectFull pieces)))
        else if A.used s0 + (collectHdr pieces).length ≤ A.cap s0 then .error .collectStr
        else .error .bufferFull) ∧
      (A.used s0 + (collectFull pieces).length ≤ A.cap s0 → written = collectFull pieces) ∧
      (¬ A.used s0 + (collectHdr pieces).length ≤ A.cap s0 → written = []) ∧
      (A.used s0 + (collectHdr pieces).length ≤ A.cap s0 →
        ¬ A.used s0 + (collectFull pieces).length ≤ A.cap s0 →
        ∃ k, k < pieces.length ∧
          (∀ j, A.used s0 + (collectHdr pieces ++ (pieces.take j).flatten).length ≤ A.cap s0 ↔
            j ≤ k) ∧
          written = collectHdr pieces ++ (pieces.take k).flatten) := by
  have hx := A.step_eq s0 (.extend (collectHdr pieces)) hs
  by_cases hh : A.used s0 + (collectHdr pieces).length ≤ A.cap s0
  · replace hx : F.tryExtend s0 (collectHdr pieces) = (A.app s0 (collectHdr pieces), none) :=
      hx.trans (if_pos hh)
    have hu := A.used_app s0 (collectHdr pieces)
    have hc := A.cap_app s0 _ hh
    obtain ⟨k, hk, he⟩ := A.feed_eq (pieces.map .extend) (A.app s0 (collectHdr pieces))
      (by rw [hu, hc]; exact hh)
    simp only [← List.map_take, chunkBytes_map_extend, List.length_map, hu, hc, Nat.add_assoc,
      ← List.length_append, A.app_app _ _ _ hs] at hk he
    by_cases h : A.used s0 + (collectFull pieces).length ≤ A.cap s0
    · refine ⟨_, List.prefix_refl _, h, ?_, fun _ => rfl, fun n => absurd hh n,
        fun _ n => absurd h n⟩
      simp only [collectStrWith, ← List.length_flatten, hx, collectPieces_eq_feed, he,
        A.finalize_eq, if_pos h]
    · obtain ⟨hk, hj⟩ := hk h
      refine ⟨_, (List.prefix_append_right_inj _).2 (take_flatten_prefix pieces k),
        (hj k).2 (Nat.le_refl k), ?_, fun n => absurd n h, fun n => absurd hh n,
        fun _ _ => ⟨k, hk, hj, rfl⟩⟩
      simp only [collectStrWith, ← List.length_flatten, hx, collectPieces_eq_feed, he, if_neg h,
        if_pos hh]
  · replace hx : F.tryExtend s0 (collectHdr pieces) = (s0, some .bufferFull) := hx.trans (if_neg hh)
    have h : ¬ A.used s0 + (collectFull pieces).length ≤ A.cap s0 := fun h => hh (by
      rw [List.length_append, ← Nat.add_assoc] at h; exact Nat.le_of_add_right_le h)
    refine ⟨[], List.nil_prefix, hs, ?_, fun n => absurd n h, fun _ => rfl, fun n => absurd n hh⟩
    simp only [collectStrWith, ← List.length_flatten, hx, if_neg hh, if_neg h, A.app_nil]

end atomic

theorem AllocVec.collectStrWith_eq (pieces : List (List Byte)) :
    collectStrWith AllocVec [] pieces = (collectFull pieces, .ok (collectFull pieces)) := by
  have hx : ∀ bs, AllocVec.tryExtend [] bs = (bs, none) := fun _ => rfl
  have hf : ∀ s, AllocVec.finalize s = (s, .ok s) := fun _ => rfl
  simp only [collectStrWith, ← List.length_flatten, hx, collectPieces_eq_feed, AllocVec.feed_eq,
    chunkBytes_map_extend, hf]

/-- growable storage: a Display-collected string is encoded exactly like the string it
spells (`serialize_str`), whatever the piece boundaries. -/
theorem collect_alloc (pieces : List (List Byte)) :
    (collectStrWith AllocVec [] pieces).2
        = .ok (encVarint 64 pieces.flatten.length ++ pieces.flatten) ∧
    encVarint 64 pieces.flatten.length ++ pieces.flatten = enc (.str pieces.flatten) := by
  rw [AllocVec.collectStrWith_eq]
  exact ⟨rfl, by simp only [enc]⟩

/-- only the text matters, not how `Display` chops it into `write_str` pieces. -/
theorem collect_pieces_irrelevant (p q : List (List Byte)) (h : p.flatten = q.flatten) :
    collectStrWith AllocVec [] p = collectStrWith AllocVec [] q := by
  simp only [AllocVec.collectStrWith_eq, collectFull, collectHdr, h]

/-- `Slice`: success iff header ++ text fits; otherwise `CollectStrError` if at least the
header fits, `SerializeBufferFull` if not even that. -/
theorem collect_slice_threshold (buf : List Byte) (pieces : List (List Byte)) :
    (collectStrWith Slice ⟨buf, 0⟩ pieces).2 =
      if (collectFull pieces).length ≤ buf.length then .ok (collectFull pieces)
      else if (collectHdr pieces).length ≤ buf.length then .error .collectStr
      else .error .bufferFull := by
  obtain ⟨w, _, _, he, _⟩ := Slice.atomic.collectStrWith_eq ⟨buf, 0⟩ (Nat.zero_le _) pieces
  rw [he]
  simp only [Slice.atomic, writeAt_zero, Nat.zero_add, List.take_left']

/-- what the caller's buffer holds afterwards.
* success: header ++ text, then the untouched tail;
* header does not fit: the buffer is untouched, cursor 0;
* a piece does not fit: header ++ the first `k` WHOLE pieces, then the untouched tail, where
  `k` is the longest run of whole pieces that fits (`j` pieces fit iff `j ≤ k`) — the
  failing piece leaves no partial bytes, and later (shorter) pieces are not tried;
* always: same length, cursor in bounds, nothing at or beyond the cursor modified. -/
theorem collect_slice_buffer (buf : List Byte) (pieces : List (List Byte)) :
    ((collectFull pieces).length ≤ buf.length →
      (collectStrWith Slice ⟨buf, 0⟩ pieces).1 =
        ⟨collectFull pieces ++ buf.drop (collectFull pieces).length,
          (collectFull pieces).length⟩) ∧
    (¬ (collectHdr pieces).length ≤ buf.length →
      (collectStrWith Slice ⟨buf, 0⟩ pieces).1 = ⟨buf, 0⟩) ∧
    ((collectHdr pieces).length ≤ buf.length → ¬ (collectFull pieces).length ≤ buf.length →
      ∃ k written, k < pieces.length ∧
        written = collectHdr pieces ++ (pieces.take k).flatten ∧
        (∀ j, (collectHdr pieces ++ (pieces.take j).flatten).length ≤ buf.length ↔ j ≤ k) ∧
        written <+: collectFull pieces ∧
        (collectStrWith Slice ⟨buf, 0⟩ pieces).1 =
          ⟨written ++ buf.drop written.length, written.length⟩) ∧
    (collectStrWith Slice ⟨buf, 0⟩ pieces).1.mem.length = buf.length ∧
    (collectStrWith Slice ⟨buf, 0⟩ pieces).1.cursor ≤ buf.length ∧
    (∀ i, (collectStrWith Slice ⟨buf, 0⟩ pieces).1.cursor ≤ i →
      (collectStrWith Slice ⟨buf, 0⟩ pieces).1.mem[i]? = buf[i]?) := by
  obtain ⟨w, hpre, hfit, he, h1, h2, h3⟩ :=
    Slice.atomic.collectStrWith_eq ⟨buf, 0⟩ (Nat.zero_le _) pieces
  simp only [Slice.atomic, writeAt_zero, Nat.zero_add] at hfit he h1 h2 h3
  rw [he]
  refine ⟨fun h => by rw [h1 h], fun h => by rw [h2 h]; rfl, fun hh h => ?_, ?_, hfit,
    fun i (hi : w.length ≤ i) => ?_⟩
  · obtain ⟨k, hk, hj, rfl⟩ := h3 hh h
    exact ⟨k, _, hk, rfl, hj, hpre, rfl⟩
  · rw [List.length_append, List.length_drop]; omega
  · rw [List.getElem?_append_right hi, List.getElem?_drop]
    congr 1; omega

/-- `HVec` (`heapless::Vec<u8, cap>`): the same threshold. -/
theorem collect_hvec_threshold (cap : Nat) (pieces : List (List Byte)) :
    (collectStrWith HVec ⟨cap, []⟩ pieces).2 =
      if (collectFull pieces).length ≤ cap then .ok (collectFull pieces)
      else if (collectHdr pieces).length ≤ cap then .error .collectStr
      else .error .bufferFull := by
  obtain ⟨w, _, _, he, _⟩ := HVec.atomic.collectStrWith_eq ⟨cap, []⟩ (Nat.zero_le _) pieces
  rw [he]
  simp only [HVec.atomic, List.length_nil, Nat.zero_add, List.nil_append]

/-- the vector never exceeds its capacity; it holds nothing (header did not fit), or
header ++ the longest run of whole pieces that fits (`extend_from_slice` writes nothing of a
block that does not fit), or everything. -/
theorem collect_hvec_within_capacity (cap : Nat) (pieces : List (List Byte)) :
    (collectStrWith HVec ⟨cap, []⟩ pieces).1.cap = cap ∧
    (collectStrWith HVec ⟨cap, []⟩ pieces).1.vec.length ≤ cap ∧
    (collectStrWith HVec ⟨cap, []⟩ pieces).1.vec <+: collectFull pieces ∧
    ((collectFull pieces).length ≤ cap →
      (collectStrWith HVec ⟨cap, []⟩ pieces).1.vec = collectFull pieces) ∧
    (¬ (collectHdr pieces).length ≤ cap → (collectStrWith HVec ⟨cap, []⟩ pieces).1.vec = []) ∧
    ((collectHdr pieces).length ≤ cap → ¬ (collectFull pieces).length ≤ cap →
      ∃ k, k < pieces.length ∧
        (∀ j, (collectHdr pieces ++ (pieces.take j).flatten).length ≤ cap ↔ j ≤ k) ∧
        (collectStrWith HVec ⟨cap, []⟩ pieces).1.vec
          = collectHdr pieces ++ (pieces.take k).flatten) := by
  obtain ⟨w, hpre, hfit, he, h1, h2, h3⟩ :=
    HVec.atomic.collectStrWith_eq ⟨cap, []⟩ (Nat.zero_le _) pieces
  simp only [HVec.atomic, List.length_nil, Nat.zero_add, List.nil_append] at hfit he h1 h2 h3
  rw [he]
  exact ⟨rfl, hfit, hpre, h1, h2, h3⟩

/-- no truncated success: whatever a bounded storage returns as `Ok` is the complete
encoding of the string. -/
theorem collect_never_ok_truncated (pieces : List (List Byte)) (out : List Byte) :
    (∀ buf, (collectStrWith Slice ⟨buf, 0⟩ pieces).2 = .ok out →
      out = enc (.str pieces.flatten) ∧ out.length ≤ buf.length) ∧
    (∀ cap, (collectStrWith HVec ⟨cap, []⟩ pieces).2 = .ok out →
      out = enc (.str pieces.flatten) ∧ out.length ≤ cap) := by
  -- both thresholds answer `Ok` in the first of their three cases only
  have key : ∀ n : Nat, (if (collectFull pieces).length ≤ n then .ok (collectFull pieces)
      else if (collectHdr pieces).length ≤ n then .error .collectStr
      else .error .bufferFull : R (List Byte)) = .ok out →
      out = enc (.str pieces.flatten) ∧ out.length ≤ n := by
    intro n h
    split at h
    · next hf => cases h; exact ⟨by simp only [enc], hf⟩
    · split at h <;> cases h
  exact ⟨fun buf h => key _ (collect_slice_threshold buf pieces ▸ h),
    fun cap h => key _ (collect_hvec_threshold cap pieces ▸ h)⟩

/-! `format_args!("{}:{}", host, port)`-style pieces
`"printer.example"`, `":"`, `"80"` — 15 + 1 + 2 = 18 text bytes, 1 header byte, 19 in all. -/
namespace C05Collect

def exPieces : List (List Byte) :=
  [[0x70, 0x72, 0x69, 0x6E, 0x74, 0x65, 0x72, 0x2E, 0x65, 0x78, 0x61, 0x6D, 0x70, 0x6C, 0x65],
   [0x3A], [0x38, 0x30]]

def exFull : List Byte :=
  [0x12, 0x70, 0x72, 0x69, 0x6E, 0x74, 0x65, 0x72, 0x2E, 0x65, 0x78, 0x61, 0x6D, 0x70, 0x6C, 0x65,
   0x3A, 0x38, 0x30]

example : collectFull exPieces = exFull := by decide +kernel
example : (collectFull exPieces).length = 19 ∧ (collectHdr exPieces).length = 1 := by decide +kernel
example : (collectStrWith AllocVec [] exPieces).2 = .ok exFull := by rfl
example : exFull = enc (.str exPieces.flatten) := by rfl
-- capacity 20: fits, the last cell is untouched
example : collectStrWith Slice ⟨List.replicate 20 0xFF, 0⟩ exPieces
    = (⟨exFull ++ [0xFF], 19⟩, .ok exFull) := by rfl
-- capacity 19: the exact threshold
example : collectStrWith Slice ⟨List.replicate 19 0xFF, 0⟩ exPieces
    = (⟨exFull, 19⟩, .ok exFull) := by rfl
-- capacity 18: header, host and ":" are in, "80" does not fit as a whole — not even its "8"
example : collectStrWith Slice ⟨List.replicate 18 0xFF, 0⟩ exPieces
    = (⟨exFull.take 17 ++ [0xFF], 17⟩, .error .collectStr) := by rfl
-- capacity 16: header and host fill the buffer, ":" fails
example : collectStrWith Slice ⟨List.replicate 16 0xFF, 0⟩ exPieces
    = (⟨exFull.take 16, 16⟩, .error .collectStr) := by rfl
-- capacity 4: only the header is written; the 15-byte host is all-or-nothing
example : collectStrWith Slice ⟨List.replicate 4 0xFF, 0⟩ exPieces
    = (⟨[0x12, 0xFF, 0xFF, 0xFF], 1⟩, .error .collectStr) := by rfl
-- capacity 0: not even the header — a different error, nothing written
example : collectStrWith Slice ⟨[], 0⟩ exPieces = (⟨[], 0⟩, .error .bufferFull) := by rfl
-- the first piece that does not fit decides: `[4]` would fit after the header, but it is
-- never tried once `[1, 2, 3]` has failed
example : collectStrWith Slice ⟨[0xFF, 0xFF, 0xFF], 0⟩ [[1, 2, 3], [4]]
    = (⟨[4, 0xFF, 0xFF], 1⟩, .error .collectStr) := by rfl
-- an EMPTY piece after a full buffer is not an error (`try_extend(&[])` succeeds)
example : collectStrWith Slice ⟨[0xFF, 0xFF, 0xFF], 0⟩ [[1, 2], []]
    = (⟨[2, 1, 2], 3⟩, .ok [2, 1, 2]) := by rfl
-- no pieces at all: the empty string, one header byte
example : collectStrWith Slice ⟨[0xFF, 0xFF], 0⟩ [] = (⟨[0, 0xFF], 1⟩, .ok [0]) := by rfl
example : collectStrWith Slice ⟨[], 0⟩ [] = (⟨[], 0⟩, .error .bufferFull) := by rfl
example : collectStrWith AllocVec [] [] = ([0], .ok [0]) := by rfl
example : collectStrWith HVec ⟨19, []⟩ exPieces = (⟨19, exFull⟩, .ok exFull) := by rfl
example : collectStrWith HVec ⟨18, []⟩ exPieces = (⟨18, exFull.take 17⟩, .error .collectStr) := by
  rfl
example : collectStrWith HVec ⟨4, []⟩ exPieces = (⟨4, [0x12]⟩, .error .collectStr) := by rfl
example : collectStrWith HVec ⟨0, []⟩ exPieces = (⟨0, []⟩, .error .bufferFull) := by rfl
-- piece boundaries are irrelevant for growable storage
example : collectStrWith AllocVec [] exPieces = collectStrWith AllocVec [] [exPieces.flatten] :=
  collect_pieces_irrelevant _ _ (by decide +kernel)
-- … but not for bounded storage: the same text in one piece leaves only the header at 18
example : collectStrWith Slice ⟨List.replicate 18 0xFF, 0⟩ [exPieces.flatten]
    = (⟨0x12 :: List.replicate 17 0xFF, 1⟩, .error .collectStr) := by rfl

end C05Collect

end Postcard
