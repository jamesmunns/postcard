import Postcard.Props.C01
import Postcard.Props.C03
import Postcard.Props.C04
import Postcard.Props.C05
import Postcard.Props.C06
import Postcard.Props.C08
import Postcard.Props.C10
import Postcard.Props.C20
import Postcard.Props.C05Framed
/-
  Corollaries that instantiate the abstract parameters of the per-property theorems with
  postcard's OWN decoder (`dec t` / `fromBytes t`) and chain them.
-/
namespace Postcard
open Spec

theorem E2E.segs_frames {β : Type} {f : β → List Byte} (hz : ∀ x, (0 : Byte) ∉ f x)
    (xs : List β) :
    segs [] ((xs.map (fun x => f x ++ [0])).flatten) = (xs.map f, []) := by
  induction xs with
  | nil => rfl
  | cons x xs ih =>
    simp only [List.map_cons, List.flatten_cons, List.append_assoc, List.singleton_append]
    rw [segs_append_zero (hz x), ih, List.nil_append]

theorem E2E.frame_decodes (v : Val) (t : Ty) (h : hasTy v t = true) (rest : List Byte) :
    (fromBytesCobs (fromBytes t) (cobsEncode (enc v) ++ [0] ++ rest)).1 = .ok v ∧
    (takeFromBytesCobs (fromBytes t) (cobsEncode (enc v) ++ [0] ++ rest)).1 = .ok (v, rest) :=
  cobs_frame_decodes _ _ rest v (List.append_nil (enc v) ▸ (decode_entries v t h []).2)

theorem E2E.accDecoder_frame (v : Val) (t : Ty) (h : hasTy v t = true) :
    accDecoder t (cobsEncode (enc v) ++ [0]) = some v := by
  have h1 := (E2E.frame_decodes v t h []).1
  rw [List.append_nil] at h1
  simp only [accDecoder, h1]

/-- **C01 + C06 + C08.**  Values `vs` of type `t`, each serialised as the COBS
frame `cobsEncode (enc v) ++ [0]` (what `to_slice_cobs` / `to_vec_cobs` /
`to_allocvec_cobs` return), the frames concatenated into one stream, the
stream cut into `chunks` in ANY way.  If every frame including its sentinel
fits the accumulator capacity `n`, the documented loop over the chunks,
starting from `CobsAccumulator::new()` and decoding with
`from_bytes_cobs::<T>`, reports exactly `Success(v)` for each `v` in order —
no `DeserError`, no `OverFull`, no panic — and ends with an empty buffer. -/
theorem acc_delivers_values (t : Ty) (vs : List Val) (n : Nat) (chunks : List (List Byte))
    (hty : ∀ v ∈ vs, hasTy v t = true)
    (hcap : ∀ v ∈ vs, (cobsEncode (enc v) ++ [0]).length ≤ n)
    (hchunks : chunks.flatten = (vs.map (fun v => cobsEncode (enc v) ++ [0])).flatten) :
    frameResults (Acc.run (accDecoder t) ⟨n, []⟩ chunks).1 = vs.map Outcome.ok ∧
    (Acc.run (accDecoder t) ⟨n, []⟩ chunks).2 = ⟨n, []⟩ ∧
    FeedRes.panic ∉ (Acc.run (accDecoder t) ⟨n, []⟩ chunks).1 ∧
    Outcome.overFull ∉ frameResults (Acc.run (accDecoder t) ⟨n, []⟩ chunks).1 ∧
    Outcome.deserErr ∉ frameResults (Acc.run (accDecoder t) ⟨n, []⟩ chunks).1 := by
  have hsegs : segs [] chunks.flatten = (vs.map (fun v => cobsEncode (enc v)), []) :=
    hchunks ▸ E2E.segs_frames (fun v h => frame_no_interior_zero (enc v) 0 h rfl) vs
  have hfit : Fits n (segs [] chunks.flatten) := by
    rw [hsegs]
    refine ⟨fun s hs => ?_, Nat.zero_le _⟩
    obtain ⟨v, hv, rfl⟩ := List.mem_map.1 hs
    simpa using hcap v hv
  obtain ⟨h1, h2, h3, h4⟩ := acc_delivers n (accDecoder t) chunks hfit
  rw [hsegs] at h1 h2
  rw [List.map_map, List.map_congr_left (g := Outcome.ok) fun v hv => by
    simp only [Function.comp, E2E.accDecoder_frame v t (hty v hv)]] at h1
  exact ⟨h1, h2, h3, h4, by rw [h1]; simp⟩

/-- **C10 soundness, `decF := dec t`** (no hypothesis left): whatever
`take_from_bytes_uN::<T>` accepts is `p ++ c ++ r` with `c` the `nbytes`-byte
little-endian checksum of `p`, `r` the returned remainder, and `p` a complete
encoding of the returned value: `dec t` decodes `p` to `v` whatever follows. -/
theorem crc_sound_dec {w : Nat} (alg : CrcAlg w) (nbytes : Nat) (t : Ty) (bs r : List Byte)
    (v : Val) (h : takeFromBytesCrc alg nbytes (dec t) bs = .ok (v, r)) :
    ∃ p c, bs = p ++ c ++ r ∧ c.length = nbytes ∧ c = leBytes nbytes (crc alg p).toNat ∧
      dec t bs = .ok (v, c ++ r) ∧ ∀ x, dec t (p ++ x) = .ok (v, x) := by
  obtain ⟨p, c, hb, hc, hcrc, hd⟩ :=
    crc_sound alg nbytes (dec t) (fun _ _ _ h => dec_consumes_prefix h) bs r v h
  refine ⟨p, c, hb, hc, hcrc, hd, ?_⟩
  rw [hb, List.append_assoc] at hd
  exact rest_irrelevant hd

/-- in an accepted frame `p ++ c ++ r` with `|c| = nbytes`, the split of `crc_sound_dec` is
this one. -/
theorem E2E.accepted_split {w : Nat} {alg : CrcAlg w} {nbytes : Nat} {t : Ty} {p c r : List Byte}
    {v : Val} (hok : takeFromBytesCrc alg nbytes (dec t) (p ++ c ++ r) = .ok (v, r))
    (hc : c.length = nbytes) :
    dec t (p ++ c ++ r) = .ok (v, c ++ r) ∧ (∀ x, dec t (p ++ x) = .ok (v, x)) ∧
      c = leBytes nbytes (crc alg p).toNat := by
  obtain ⟨p2, c2, hb, hc2, hcrc, hd, hall⟩ := crc_sound_dec alg nbytes t _ _ _ hok
  obtain ⟨rfl, rfl⟩ := List.append_inj' (List.append_cancel_right hb) (hc.trans hc2.symm)
  exact ⟨hd, hall, hcrc⟩

/-- **C10 checksum corruption, `decF := dec t`** (independence hypothesis
discharged by C03 `rest_irrelevant`): in ANY accepted frame `p ++ c ++ r`
(`c` the `nbytes` checksum bytes), replacing the checksum by any other bytes of
the same length gives `DeserializeBadCrc`. -/
theorem checksum_corruption_rejected_dec {w : Nat} (alg : CrcAlg w) (nbytes : Nat) (t : Ty)
    (p c c' r : List Byte) (v : Val)
    (hok : takeFromBytesCrc alg nbytes (dec t) (p ++ c ++ r) = .ok (v, r))
    (hc : c.length = nbytes) (hlen : c'.length = c.length) (hne : c' ≠ c) :
    takeFromBytesCrc alg nbytes (dec t) (p ++ c' ++ r) = .error .badCrc :=
  checksum_corruption_rejected' alg nbytes (dec t) p c c' r v (E2E.accepted_split hok hc).2.1
    hok hc hlen hne

/-- the same starting from a value. -/
theorem checksum_corruption_rejected_enc {w : Nat} (alg : CrcAlg w) (nbytes : Nat) (t : Ty)
    (v : Val) (hty : hasTy v t = true) (hfit : w ≤ nbytes * 8) (c' r : List Byte)
    (hlen : c'.length = nbytes) (hne : c' ≠ leBytes nbytes (crc alg (enc v)).toNat) :
    takeFromBytesCrc alg nbytes (dec t) (enc v ++ c' ++ r) = .error .badCrc :=
  checksum_corruption_rejected_dec alg nbytes t (enc v) _ c' r v
    (crc_roundtrip_dec alg nbytes t v hty hfit r).1 (leBytes_length _ _)
    (by rw [hlen, leBytes_length]) hne

/-- **C10 payload corruption, `decF := dec t`.**  In ANY accepted frame
`p ++ c ++ r`, replace the value bytes `p` by `p'` of the same length differing
by a burst of at most `w` bits.  The one genuine hypothesis is kept: IF the
corrupted frame still decodes, `dec t` stops at the same place (`hsame`).  Then
the corrupted frame is not accepted.  (The hypothesis "`decF` consumed exactly
`p`" of `payload_burst_rejected` is discharged by C04 `dec_consumes_prefix`.) -/
theorem payload_burst_rejected_dec {w : Nat} (alg : CrcAlg w) (hodd : alg.poly.getLsbD 0 = true)
    (nbytes : Nat) (t : Ty) (p p' c r : List Byte) (v : Val)
    (hok : takeFromBytesCrc alg nbytes (dec t) (p ++ c ++ r) = .ok (v, r))
    (hc : c.length = nbytes) (hlen : p'.length = p.length) (hburst : BurstDiff alg p p')
    (hsame : ∀ v' r', dec t (p' ++ c ++ r) = .ok (v', r') → r' = c ++ r) :
    ∀ v' r', takeFromBytesCrc alg nbytes (dec t) (p' ++ c ++ r) ≠ .ok (v', r') :=
  payload_burst_rejected alg hodd nbytes (dec t) p p' c r v hok (E2E.accepted_split hok hc).1 hc
    hlen hburst hsame

/-- the same starting from a value. -/
theorem payload_burst_rejected_enc {w : Nat} (alg : CrcAlg w) (hodd : alg.poly.getLsbD 0 = true)
    (nbytes : Nat) (t : Ty) (v : Val) (hty : hasTy v t = true) (hfit : w ≤ nbytes * 8)
    (p' r : List Byte) (hlen : p'.length = (enc v).length) (hburst : BurstDiff alg (enc v) p')
    (hsame : ∀ v' r', dec t (p' ++ leBytes nbytes (crc alg (enc v)).toNat ++ r) = .ok (v', r') →
      r' = leBytes nbytes (crc alg (enc v)).toNat ++ r) :
    ∀ v' r', takeFromBytesCrc alg nbytes (dec t)
      (p' ++ leBytes nbytes (crc alg (enc v)).toNat ++ r) ≠ .ok (v', r') :=
  payload_burst_rejected_dec alg hodd nbytes t (enc v) p' _ r v
    (crc_roundtrip_dec alg nbytes t v hty hfit r).1 (leBytes_length _ _) hlen hburst hsame

theorem to_slice_then_from_bytes (v : Val) (t : Ty) (hty : hasTy v t = true) (buf : List Byte)
    (hcap : (enc v).length ≤ buf.length) (rest : List Byte) :
    ∃ out, (toSlice v buf).2 = .ok out ∧
      takeFromBytes t (out ++ rest) = .ok (v, rest) ∧ fromBytes t (out ++ rest) = .ok v := by
  refine ⟨enc v, ?_, decode_entries v t hty rest⟩
  rw [to_slice_threshold, if_pos hcap]

theorem to_slice_cobs_then_from_bytes_cobs (v : Val) (t : Ty) (hty : hasTy v t = true)
    (buf : List Byte) (hcap : (cobsEncode (enc v)).length + 1 ≤ buf.length) (rest : List Byte) :
    ∃ out, (toSliceCobs v buf).2 = .ok out ∧
      (fromBytesCobs (fromBytes t) (out ++ rest)).1 = .ok v ∧
      (takeFromBytesCobs (fromBytes t) (out ++ rest)).1 = .ok (v, rest) :=
  ⟨_, (to_slice_cobs_threshold v buf).trans (if_pos hcap), E2E.frame_decodes v t hty rest⟩

theorem to_hvec_cobs_then_from_bytes_cobs (v : Val) (t : Ty) (hty : hasTy v t = true)
    (cap : Nat) (hcap : (cobsEncode (enc v)).length + 1 ≤ cap) (rest : List Byte) :
    ∃ out, (toHVecCobs cap v).2 = .ok out ∧
      (fromBytesCobs (fromBytes t) (out ++ rest)).1 = .ok v ∧
      (takeFromBytesCobs (fromBytes t) (out ++ rest)).1 = .ok (v, rest) :=
  ⟨_, (to_hvec_cobs_threshold cap v).trans (if_pos hcap), E2E.frame_decodes v t hty rest⟩

theorem to_slice_crc_then_from_bytes_crc {w : Nat} (alg : CrcAlg w) (nbytes : Nat) (v : Val)
    (t : Ty) (hty : hasTy v t = true) (hfit : w ≤ nbytes * 8) (buf : List Byte)
    (hcap : (enc v).length + nbytes ≤ buf.length) (rest : List Byte) :
    ∃ out, (toSliceCrc alg nbytes buf v).2 = .ok out ∧
      takeFromBytesCrc alg nbytes (dec t) (out ++ rest) = .ok (v, rest) ∧
      fromBytesCrc alg nbytes (dec t) (out ++ rest) = .ok v :=
  ⟨_, (crc_over alg nbytes v).2.2 buf hcap, crc_roundtrip_dec alg nbytes t v hty hfit rest⟩

theorem to_hvec_crc_then_from_bytes_crc {w : Nat} (alg : CrcAlg w) (nbytes : Nat) (v : Val)
    (t : Ty) (hty : hasTy v t = true) (hfit : w ≤ nbytes * 8) (cap : Nat)
    (hcap : (enc v).length + nbytes ≤ cap) (rest : List Byte) :
    ∃ out, toHVecCrc alg nbytes cap v = .ok out ∧
      takeFromBytesCrc alg nbytes (dec t) (out ++ rest) = .ok (v, rest) ∧
      fromBytesCrc alg nbytes (dec t) (out ++ rest) = .ok v :=
  ⟨_, (crc_over alg nbytes v).2.1 cap hcap, crc_roundtrip_dec alg nbytes t v hty hfit rest⟩

/-! The running example of C01: `C01.exV : C01.exT`, `enc C01.exV` = 8 bytes, its
COBS frame = 10 bytes. -/

private instance decEqRE2E {α : Type} [DecidableEq α] : DecidableEq (R α)
  | .ok a, .ok b =>
    if h : a = b then isTrue (by rw [h]) else isFalse (by intro h'; cases h'; exact h rfl)
  | .error a, .error b =>
    if h : a = b then isTrue (by rw [h]) else isFalse (by intro h'; cases h'; exact h rfl)
  | .ok _, .error _ => isFalse (by intro h; cases h)
  | .error _, .ok _ => isFalse (by intro h; cases h)

example : cobsEncode (enc C01.exV) ++ [0] = [9, 0xAC, 0x02, 1, 2, 0x68, 0x69, 1, 3, 0] := by
  decide +kernel

/-- two frames, cut inside both frames, with an empty chunk and the last
sentinel alone in its chunk. -/
def E2E.exChunks : List (List Byte) :=
  [[9, 0xAC], [0x02, 1, 2, 0x68, 0x69, 1, 3, 0, 9, 0xAC, 0x02], [], [1, 2, 0x68, 0x69, 1, 3], [0]]

/-- capacity = frame length … -/
example :
    frameResults (Acc.run (accDecoder C01.exT) ⟨10, []⟩ E2E.exChunks).1
        = [C01.exV, C01.exV].map Outcome.ok ∧
      (Acc.run (accDecoder C01.exT) ⟨10, []⟩ E2E.exChunks).2 = ⟨10, []⟩ :=
  have h := acc_delivers_values C01.exT [C01.exV, C01.exV] 10 E2E.exChunks
    (by decide) (by decide) (by decide)
  ⟨h.1, h.2.1⟩

example : frameResults (Acc.run (accDecoder C01.exT) ⟨10, []⟩ E2E.exChunks).1
    = [.ok C01.exV, .ok C01.exV] := by rfl
example : (Acc.run (accDecoder C01.exT) ⟨10, []⟩ E2E.exChunks).1
    = [.consumed, .success C01.exV [9, 0xAC, 0x02], .consumed, .consumed, .success C01.exV []] := by
  rfl

/-- … and the capacity hypothesis is sharp: one byte less and both frames are `OverFull`. -/
example : frameResults (Acc.run (accDecoder C01.exT) ⟨9, []⟩ E2E.exChunks).1
    = [.overFull, .overFull] := by rfl

/-- a frame, and a frame whose payload is not a `T`. -/
example : accDecoder C01.exT [9, 0xAC, 0x02, 1, 2, 0x68, 0x69, 1, 3, 0] = some C01.exV := by rfl
example : accDecoder C01.exT [2, 0xAC, 0] = none := by decide +kernel

example : takeFromBytesCrc CRC_32_ISO_HDLC 4 (dec C01.exT)
    (enc C01.exV ++ leBytes 4 (crc CRC_32_ISO_HDLC (enc C01.exV)).toNat ++ [0xaa])
      = .ok (C01.exV, [0xaa]) :=
  (crc_roundtrip_dec CRC_32_ISO_HDLC 4 C01.exT C01.exV C01.ex_hasTy (by decide) [0xaa]).1
example : enc C01.exV ++ leBytes 4 (crc CRC_32_ISO_HDLC (enc C01.exV)).toNat
    = [0xAC, 0x02, 1, 2, 0x68, 0x69, 1, 3, 254, 243, 69, 135] := by decide +kernel

example : takeFromBytesCrc CRC_32_ISO_HDLC 4 (dec C01.exT) (enc C01.exV ++ [0, 0, 0, 0] ++ [0xaa])
    = .error .badCrc :=
  checksum_corruption_rejected_enc CRC_32_ISO_HDLC 4 C01.exT C01.exV C01.ex_hasTy (by decide)
    [0, 0, 0, 0] [0xaa] rfl (by decide +kernel)

/-- a flipped payload bit (`0x31 → 0x33` in a `u8`): `hsame` holds because a `u8` always
consumes one byte. -/
example : ∀ v' r', takeFromBytesCrc CRC_32_ISO_HDLC 4 (dec (.u .w8))
    ([] ++ [flipBit 0x31 1] ++ [] ++ leBytes 4 (crc CRC_32_ISO_HDLC (enc (.u .w8 0x31))).toNat
      ++ [0xaa]) ≠ .ok (v', r') :=
  payload_burst_rejected_enc CRC_32_ISO_HDLC (by decide +kernel) 4 (.u .w8) (.u .w8 0x31)
    (by decide) (by decide) ([] ++ [flipBit 0x31 1] ++ []) [0xaa] rfl
    (bitflip_burstDiff CRC_32_ISO_HDLC (by decide) [] [] 0x31 1 (by decide))
    (fun _ _ h => by cases h; rfl)

example : ∃ out, (toSliceCobs C01.exV (List.replicate 10 0xFF)).2 = .ok out ∧
    (fromBytesCobs (fromBytes C01.exT) (out ++ [7, 0])).1 = .ok C01.exV ∧
    (takeFromBytesCobs (fromBytes C01.exT) (out ++ [7, 0])).1 = .ok (C01.exV, [7, 0]) :=
  to_slice_cobs_then_from_bytes_cobs C01.exV C01.exT C01.ex_hasTy _ (by decide) _
example : (toSliceCobs C01.exV (List.replicate 10 0xFF)).2
    = .ok [9, 0xAC, 0x02, 1, 2, 0x68, 0x69, 1, 3, 0] := by decide +kernel
example : (takeFromBytesCobs (fromBytes C01.exT)
    ([9, 0xAC, 0x02, 1, 2, 0x68, 0x69, 1, 3, 0] ++ [7, 0])).1 = .ok (C01.exV, [7, 0]) := by rfl
example : ∃ out, (toSliceCrc CRC_32_ISO_HDLC 4 (List.replicate 12 0xFF) C01.exV).2 = .ok out ∧
    takeFromBytesCrc CRC_32_ISO_HDLC 4 (dec C01.exT) (out ++ [7]) = .ok (C01.exV, [7]) ∧
    fromBytesCrc CRC_32_ISO_HDLC 4 (dec C01.exT) (out ++ [7]) = .ok C01.exV :=
  to_slice_crc_then_from_bytes_crc CRC_32_ISO_HDLC 4 C01.exV C01.exT C01.ex_hasTy (by decide) _
    (by decide) _
example : ∃ out, (toSlice C01.exV (List.replicate 8 0)).2 = .ok out ∧
    takeFromBytes C01.exT (out ++ [7]) = .ok (C01.exV, [7]) ∧
    fromBytes C01.exT (out ++ [7]) = .ok C01.exV :=
  to_slice_then_from_bytes C01.exV C01.exT C01.ex_hasTy _ (by decide) _

end Postcard
