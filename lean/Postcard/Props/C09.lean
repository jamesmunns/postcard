import Postcard.Model.Accumulator
import Postcard.Lemmas.Accumulator
import Postcard.Props.C08
/-
  C09: the COBS accumulator survives overflow and garbage, resynchronises at the next zero, never
  panics, and the documented drain loop terminates (Model/Accumulator.lean mirrors
  source/postcard/src/accumulator.rs).
-/
namespace Postcard

variable {α : Type}

/-- **C09 `idx_le_n`.**  `feed` preserves `idx ≤ N` (and never changes `N`),
for ANY input. -/
theorem idx_le_n (decF : List Byte → Option α) (a : Acc) (input : List Byte)
    (hinv : a.buf.length ≤ a.n) :
    (a.feed decF input).2.buf.length ≤ (a.feed decF input).2.n ∧
      (a.feed decF input).2.n = a.n :=
  ⟨(feed_inv decF a input hinv).1, feed_n decF a input⟩

/-- … hence so does the documented loop, with any fuel, on any window … -/
theorem idx_le_n_drain (decF : List Byte → Option α) (fuel : Nat) (a : Acc) (w : List Byte)
    (hinv : a.buf.length ≤ a.n) :
    (a.drain decF fuel w).2.buf.length ≤ (a.drain decF fuel w).2.n ∧
      (a.drain decF fuel w).2.n = a.n :=
  ⟨drainX_inv decF fuel a w hinv, drainX_n decF fuel a w⟩

/-- From the fresh accumulator the invariant holds after every run. -/
theorem idx_le_n_run (n : Nat) (decF : List Byte → Option α) (chunks : List (List Byte)) :
    (Acc.run decF ⟨n, []⟩ chunks).2.buf.length ≤ n ∧
      (Acc.run decF ⟨n, []⟩ chunks).2.n = n := by
  have h := run_n decF ⟨n, []⟩ chunks
  exact ⟨by simpa [h] using (run_inv decF ⟨n, []⟩ chunks (Nat.zero_le _)).1, h⟩

/-- **C09 `feed_total`.**  Under the invariant, `feed` never panics, for ANY
input (garbage, over-long segments, empty input): `extend_unchecked` is only
reached when the data fits, `N - idx` does not underflow and `input[N-idx..]`
is in range. -/
theorem feed_total (decF : List Byte → Option α) (a : Acc) (input : List Byte)
    (hinv : a.buf.length ≤ a.n) : (a.feed decF input).1 ≠ .panic :=
  (feed_inv decF a input hinv).2

/-- No `feed` call of the documented loop over any chunk list, started from the
fresh accumulator, panics. -/
theorem run_total (n : Nat) (decF : List Byte → Option α) (chunks : List (List Byte)) :
    FeedRes.panic ∉ (Acc.run decF ⟨n, []⟩ chunks).1 :=
  (run_inv decF ⟨n, []⟩ chunks (Nat.zero_le _)).2

/-- **C09 `reset_after_zero`, single call.**  Whenever `feed` reports something
about a frame (`success`, `deserError`, or `overFull` in EITHER overflow
branch), the buffer is empty afterwards.  In the no-zero overflow branch the
returned remainder `input[N-idx..]` is non-trivially re-fed by the loop; the
buffer is nevertheless reset at that point. -/
theorem reset_after_zero_feed (decF : List Byte → Option α) (a : Acc) (input : List Byte)
    (hinv : a.buf.length ≤ a.n) (h : (a.feed decF input).1.isFrameResult = true) :
    (a.feed decF input).2 = ⟨a.n, []⟩ := by
  cases hf : a.feed decF input with
  | mk r a' =>
    rw [hf] at h
    cases r with
    | consumed | panic => cases h
    | overFull w' | deserError w' | success d w' => exact (feed_next decF hinv hf rfl).1

/-- Resynchronisation lemma behind `reset_after_zero` and `resync`: whatever the
accumulator state `a` (mid-frame, after an overflow, even violating the
invariant) and whatever precedes a zero byte in the stream, after that zero the
loop behaves exactly like a fresh accumulator on the rest `y` of the stream. -/
theorem run_resync (decF : List Byte → Option α) (a : Acc) (chunks : List (List Byte))
    (g y : List Byte) (h : chunks.flatten = g ++ 0 :: y) (hfit : Fits a.n (segs [] y)) :
    ∃ pre, frameResults (Acc.run decF a chunks).1 = pre ++ (segs [] y).1.map (isolated decF) ∧
      (Acc.run decF a chunks).2 = ⟨a.n, (segs [] y).2⟩ := by
  induction chunks generalizing a g with
  | nil => simp at h
  | cons c cs ih =>
    rw [List.flatten_cons] at h
    rcases chunk_split h with ⟨g', _, h2⟩ | ⟨c', rfl, rfl⟩
    · obtain ⟨pre, i1, i2⟩ := ih (a.drainChunk decF c).2 g' h2
        (by rw [drainChunk_n]; exact hfit)
      rw [drainChunk_n] at i2
      rw [run_cons]
      refine ⟨frameResults (a.drainChunk decF c).1 ++ pre, ?_, i2⟩
      rw [frameResults_append, i1, List.append_assoc]
    · obtain ⟨pre, d1, d2⟩ := drainX_resync decF (2 * (g ++ 0 :: c').length + 2) a g c'
        (by omega) (Fits_prefix hfit)
      obtain ⟨b1, b2, _⟩ := acc_delivers_from a.n decF (segs [] c').2 cs (Fits_append hfit).2
      rw [run_cons, segs_append, drainChunk_eq, d2]
      refine ⟨pre, ?_, b2⟩
      rw [frameResults_append, d1, b1, List.map_append, List.append_assoc]

/-- **C09 `reset_after_zero`, stream level.**  After the documented loop has
been run on ANY chunk list whose concatenation ends with a zero byte — from any
accumulator state, whatever garbage or over-long segments the stream contains —
the buffer is empty: the accumulator is back in its initial state. -/
theorem reset_after_zero (decF : List Byte → Option α) (a : Acc) (chunks : List (List Byte))
    (s : List Byte) (h : chunks.flatten = s ++ [0]) :
    (Acc.run decF a chunks).2 = ⟨a.n, []⟩ := by
  obtain ⟨_, _, h2⟩ := run_resync decF a chunks s [] h
    ⟨fun _ hs => by simp [segs] at hs, by simp [segs]⟩
  simpa [segs] using h2

/-- `reset_after_zero` from the fresh accumulator: back to `CobsAccumulator::new()`. -/
theorem reset_after_zero_new (n : Nat) (decF : List Byte → Option α)
    (chunks : List (List Byte)) (s : List Byte) (h : chunks.flatten = s ++ [0]) :
    (Acc.run decF (Acc.new n) chunks).2 = Acc.new n :=
  reset_after_zero decF ⟨n, []⟩ chunks s h

/-- **C09 `resync`, general form**: from ANY accumulator state. -/
theorem resync_from (decF : List Byte → Option α) (a : Acc) (g f : List Byte)
    (chunks : List (List Byte)) (hf : (0 : Byte) ∉ f) (hlen : f.length + 1 ≤ a.n)
    (h : chunks.flatten = g ++ [0] ++ f ++ [0]) :
    (frameResults (Acc.run decF a chunks).1).getLast? = some (isolated decF f) ∧
      (Acc.run decF a chunks).2 = ⟨a.n, []⟩ := by
  have hs : segs [] (f ++ 0 :: []) = ([f], []) := by
    rw [segs_append_zero hf]; simp [segs]
  obtain ⟨pre, h1, h2⟩ := run_resync decF a chunks g (f ++ 0 :: []) (by simpa using h)
    (by rw [hs]; exact ⟨fun s hs' => by simp at hs'; subst hs'; exact hlen, Nat.zero_le _⟩)
  rw [hs] at h1 h2
  exact ⟨by simp [h1], h2⟩

/-- **C09 `resync`.**  For every garbage stream `g` (arbitrary bytes, zeros and
over-long segments included), every zero-free frame `f` that fits the capacity
with its sentinel, and EVERY chunking of `g ++ [0] ++ f ++ [0]`: the last
frame outcome reported by the documented loop, started from the fresh
accumulator, is the isolated decoding of `f ++ [0]`; the accumulator ends
empty; nothing panics.  (`1 ≤ n` is implied by `f.length + 1 ≤ n`.) -/
theorem resync (n : Nat) (decF : List Byte → Option α) (g f : List Byte)
    (chunks : List (List Byte)) (hf : (0 : Byte) ∉ f) (hlen : f.length + 1 ≤ n)
    (h : chunks.flatten = g ++ [0] ++ f ++ [0]) :
    (frameResults (Acc.run decF ⟨n, []⟩ chunks).1).getLast?
        = some (match decF (f ++ [0]) with | some d => Outcome.ok d | none => .deserErr) ∧
      (Acc.run decF ⟨n, []⟩ chunks).2 = ⟨n, []⟩ ∧
      FeedRes.panic ∉ (Acc.run decF ⟨n, []⟩ chunks).1 :=
  ⟨(resync_from decF ⟨n, []⟩ g f chunks hf hlen h).1,
    (resync_from decF ⟨n, []⟩ g f chunks hf hlen h).2, run_total n decF chunks⟩

/-- **C09 `overflow_reported`, general form.**  Buffer `b` already holds the
beginning of a segment; `s` is the zero-free rest of that segment, `rest`
whatever follows its sentinel.  If the segment with its sentinel exceeds the
capacity (`b.length + s.length + 1 > n`), then for EVERY chunking of
`s ++ [0] ++ rest` the FIRST frame outcome the loop reports is `overFull`.
Since `ok`/`deserErr` are produced only by the call that consumes a zero
(`feed_conserves`) and the first zero of the stream is this segment's sentinel,
"the first frame outcome is `overFull`" says precisely: an `overFull` is
reported no later than the feed call that consumes the sentinel, and nothing
is (mis)delivered before it. -/
theorem overflow_reported_from (n : Nat) (decF : List Byte → Option α) (b s rest : List Byte)
    (chunks : List (List Byte)) (hb : b.length ≤ n) (hs : (0 : Byte) ∉ s)
    (hlen : n < b.length + s.length + 1) (h : chunks.flatten = s ++ 0 :: rest) :
    (frameResults (Acc.run decF ⟨n, b⟩ chunks).1).head? = some .overFull := by
  induction chunks generalizing b s with
  | nil => simp at h
  | cons c cs ih =>
    rw [List.flatten_cons] at h
    rw [run_cons, frameResults_append]
    rcases chunk_split h with ⟨s', rfl, h2⟩ | ⟨c', rfl, _⟩
    · simp only [List.mem_append, not_or] at hs
      rw [List.length_append] at hlen
      by_cases hfit : b.length + c.length ≤ n
      · -- the chunk is buffered whole: no outcome yet
        obtain ⟨d1, d2⟩ := drainX_fits decF (n := n) (2 * c.length + 2) b c (by omega)
          (by rw [segs_of_not_mem hs.1]; exact ⟨by simp, by simpa using hfit⟩)
        rw [segs_of_not_mem hs.1] at d1 d2
        rw [drainChunk_eq, d1, d2]
        exact ih (b ++ c) s' (by simpa using hfit) hs.2 (by rw [List.length_append]; omega) h2
      · have hc : c ≠ [] := by rintro rfl; exact hfit (by simpa using hb)
        rw [drainChunk_eq, drainX_step decF hc
          ((feed_noZero decF (a := ⟨n, b⟩) hs.1 hb).trans (if_neg hfit)) rfl]
        rfl
    · rw [drainChunk_eq, (drainX_zero decF ⟨n, b⟩ hs c' _).1, if_neg (Nat.not_le.mpr hlen)]
      rfl

/-- **C09 `overflow_reported`.**  From the fresh accumulator: a zero-free segment
`s` with `s.length + 1 > n`, any chunking of `s ++ [0]`: the first frame outcome
reported is `overFull`; in particular at least one `overFull` is produced, no
later than the feed call that consumes the sentinel.  (More stream after the
sentinel: `overflow_reported_from`.) -/
theorem overflow_reported (n : Nat) (decF : List Byte → Option α) (s : List Byte)
    (chunks : List (List Byte)) (hs : (0 : Byte) ∉ s) (hlen : n < s.length + 1)
    (h : chunks.flatten = s ++ [0]) :
    (frameResults (Acc.run decF ⟨n, []⟩ chunks).1).head? = some .overFull ∧
      (∃ rem, FeedRes.overFull rem ∈ (Acc.run decF ⟨n, []⟩ chunks).1) := by
  have h1 := overflow_reported_from n decF [] s [] chunks (Nat.zero_le _) hs
    (by simpa using hlen) (by simpa using h)
  exact ⟨h1, overFull_mem_of_frameResults (List.mem_of_mem_head? h1)⟩

/-- **C09 `drain_terminates`.**  For a capacity of at least one byte and under
the invariant, the documented loop on a chunk `c` finishes within
`2 * c.length + 1` feed calls: `drainX` with the fuel `2 * c.length + 2` used by
`drainChunk` does not exhaust its fuel.  (Measure: `2 * |window| + min |buf| 1` — a call that does
not shrink the window happens only with a full buffer and empties it, so no two consecutive calls
are non-shrinking.) -/
theorem drain_terminates (decF : List Byte → Option α) (a : Acc) (c : List Byte)
    (hn : 1 ≤ a.n) (hinv : a.buf.length ≤ a.n) :
    (a.drainX decF (2 * c.length + 2) c).2 = false ∧
      (a.drainChunk decF c).1.length ≤ 2 * c.length + 1 := by
  have h := drainX_terminates decF (2 * c.length + 2) a c hn hinv (by omega)
  exact ⟨h.1, by rw [drainChunk_eq]; exact Nat.le_trans h.2 (by omega)⟩

/-- … hence no per-chunk loop inside `run` is ever cut short by the model's fuel. -/
theorem run_terminates (decF : List Byte → Option α) (a : Acc) (chunks : List (List Byte))
    (hn : 1 ≤ a.n) (hinv : a.buf.length ≤ a.n) : Acc.runExhausted decF a chunks = false := by
  induction chunks generalizing a with
  | nil => rfl
  | cons c cs ih =>
    have h1 := (drain_terminates decF a c hn hinv).1
    have h2 := drainX_inv decF (2 * c.length + 2) a c hinv
    have h3 := ih (a.drainChunk decF c).2 (by rw [drainChunk_n]; exact hn) h2
    simp only [Acc.runExhausted, h1, h3, Bool.or_self]

/-- **Why `1 ≤ n` is needed.**  With capacity `N = 0`, one
`feed` call on the window `[1]` returns `overFull [1]` — the same window — and
leaves the accumulator unchanged: the documented loop cycles forever. -/
example : Acc.feed exampleDec ⟨0, []⟩ [1] = (.overFull [1], ⟨0, []⟩) := by decide +kernel

/-- The same divergence for every decoder and every fuel: the model's loop
always runs out of fuel, having seen nothing but `overFull [1]`. -/
theorem drain_diverges_zero (decF : List Byte → Option α) (fuel : Nat) :
    ((⟨0, []⟩ : Acc).drainX decF fuel [1]).2 = true ∧
      ((⟨0, []⟩ : Acc).drainX decF fuel [1]).1.1 = List.replicate fuel (.overFull [1]) := by
  induction fuel with
  | zero => simp [Acc.drainX]
  | succ fuel ih =>
    have hf : (⟨0, []⟩ : Acc).feed decF [1] = (.overFull [1], ⟨0, []⟩) :=
      feed_noZero decF (a := ⟨0, []⟩) (w := [1]) (by decide) (Nat.le_refl _)
    rw [drainX_step decF (by simp) hf rfl]
    exact ⟨ih.1, by rw [ih.2]; rfl⟩

/-- `resync`/`overflow_reported` witnessed: capacity 3; garbage `9 9 9 9 9 0 7`
(an over-long segment, then a stray byte), then `0`, then the frame `1 2` and its
sentinel, cut into awkward chunks.  The loop reports `overFull` first, then the
junk frame `[7]`, and finally the isolated decoding of `1 2 0`; buffer empty. -/
example :
    (frameResults (Acc.run exampleDec ⟨3, []⟩ [[9, 9], [9, 9, 9, 0, 7], [0, 1], [2, 0]]).1,
      (Acc.run exampleDec ⟨3, []⟩ [[9, 9], [9, 9, 9, 0, 7], [0, 1], [2, 0]]).2)
      = ([.overFull, .ok 7, .ok 3], ⟨3, []⟩) := by
  decide +kernel

/-- The re-feeding subtlety of the no-zero overflow branch: capacity 2, chunk of
five non-zero bytes.  `OverFull(&input[N-idx..])` is fed again until the rest
fits; the last byte stays buffered. -/
example :
    Acc.run exampleDec ⟨2, []⟩ [[1, 2, 3, 4, 5]]
      = ([.overFull [3, 4, 5], .overFull [5], .consumed], ⟨2, [5]⟩) := by
  decide +kernel

/-- A non-shrinking call (full buffer, no zero): the window comes back unchanged
once, with the buffer emptied, and shrinks on the next call. -/
example :
    Acc.run exampleDec ⟨2, []⟩ [[1, 2], [3]]
      = ([.consumed, .overFull [3], .consumed], ⟨2, [3]⟩) := by
  decide +kernel

end Postcard
