import Postcard.Model.CrcDe
import Postcard.Lemmas.DeFlavor
import Postcard.Props.C04
import Postcard.Props.C10
/-
  The deserialising `CrcModifier` written method by method (Model/CrcDe.lean) is transparent
  over any inner flavour that simulates a byte list, and its register is `crcState` of exactly the
  bytes handed out (`CrcDe.sim`).  So the entry points run through `decG` equal the list-level
  `takeFromBytesCrc` over which C10 is stated (`takeFromBytesCrcG_eq`, no hypothesis), which
  discharges the modelling assumption of Model/Crc.lean: "digest = the bytes the value consumed".
-/
namespace Postcard

variable {σ : Type} {w : Nat}

def CrcDe.Inv (alg : CrcAlg w) (view : σ → List Byte) (Inv : σ → Prop) (total : List Byte)
    (d0 : BitVec w) (st : σ × BitVec w) : Prop :=
  Inv st.1 ∧ ∃ consumed, total = consumed ++ view st.1 ∧ st.2 = crcState alg d0 consumed

/-- C10: the deserialising CRC modifier is transparent over any list-like inner
flavour, and its register covers exactly the bytes handed out. -/
theorem CrcDe.sim (alg : CrcAlg w) {F : DeFlavor σ} {view : σ → List Byte} {Inv : σ → Prop}
    {Lax : Prop} (S : Sim F view Inv Lax) (total : List Byte) (d0 : BitVec w) :
    Sim (CrcDe alg F) (fun st => view st.1) (CrcDe.Inv alg view Inv total d0) Lax := by
  refine .of_cases ?_ ?_
  · rintro st ⟨hI1, consumed, htot, hd⟩
    cases hq : F.pop st.1 with
    | error e => simp only [CrcDe, hq]; exact S.pop_err hI1 hq
    | ok x =>
      obtain ⟨hv, hI'⟩ := S.pop_ok hI1 hq
      simp only [CrcDe, hq]
      exact ⟨hv, hI', consumed ++ [x.1], by rw [htot, hv, List.append_assoc]; rfl,
        by rw [crcState_append, hd]; rfl⟩
  · rintro st n ⟨hI1, consumed, htot, hd⟩
    cases hq : F.tryTakeN st.1 n with
    | error e => simp only [CrcDe, hq]; exact S.take_err hI1 hq
    | ok x =>
      obtain ⟨hv, hl, hI'⟩ := S.take_ok hI1 hq
      simp only [CrcDe, hq]
      exact ⟨hv, hl, hI', consumed ++ x.1, by rw [htot, hv, List.append_assoc],
        by rw [crcState_append, hd]⟩

/-- C10: over ANY exact inner flavour: `T::deserialize` through `CrcModifier<F>`
answers what the list-level decoder answers on the inner flavour's view, and on
success the register is the CRC state of exactly the consumed prefix. -/
theorem crcDe_digest_covers_consumed (alg : CrcAlg w) {F : DeFlavor σ} {view : σ → List Byte}
    {Inv : σ → Prop} (S : Sim F view Inv False) (t : Ty) (s : σ) (hI : Inv s) (d0 : BitVec w) :
    match decG (CrcDe alg F) t (s, d0) with
    | .error e => dec t (view s) = .error e
    | .ok (v, st') => dec t (view s) = .ok (v, view st'.1) ∧ Inv st'.1 ∧
        ∃ consumed, view s = consumed ++ view st'.1 ∧ st'.2 = crcState alg d0 consumed := by
  have h := decG_agrees (CrcDe.sim alg S (view s) d0) t (s, d0) ⟨hI, [], rfl, rfl⟩
  cases hr : decG (CrcDe alg F) t (s, d0) with
  | error e => exact h.err_exact hr
  | ok x => rw [hr] at h; exact h

/-- C10: `take_from_bytes_uN` as the run of the flavour-generic deserializer over
`CrcModifier<Slice>` equals the derived list-level model, for every type and input. -/
theorem takeFromBytesCrcG_eq (alg : CrcAlg w) (nbytes : Nat) (t : Ty) (bs : List Byte) :
    takeFromBytesCrcG alg nbytes t bs = takeFromBytesCrc alg nbytes (dec t) bs := by
  have S := SliceDe.sim bs bs.length 0
  have h := crcDe_digest_covers_consumed alg S t (SliceDeSt.new bs) (SliceDeSt.inv_new bs) alg.init
  rw [SliceDeSt.view_new] at h
  unfold takeFromBytesCrcG takeFromBytesCrc
  cases hr : decG (CrcDe alg SliceDe) t (SliceDeSt.new bs, alg.init) with
  | error e => rw [hr] at h; rw [show dec t bs = _ from h]
  | ok x =>
    obtain ⟨v, st'⟩ := x
    rw [hr] at h
    obtain ⟨hd, hI', consumed, htot, hreg⟩ := h
    simp only [hd]
    rw [htot, take_length_sub_append]
    -- the checksum bytes: `try_take_n` on the inner `Slice`
    have ht := S.take_agrees hI' nbytes
    unfold CrcDe.finalizeSlice
    cases hq : SliceDe.tryTakeN st'.1 nbytes with
    | error e => rw [ht.err_exact hq]
    | ok y =>
      obtain ⟨c, s''⟩ := y
      rw [hq] at ht
      rw [ht.1]
      simp only [SliceDe.finalize_eq_view, crc, hreg]
      by_cases hcmp : ofLeBytes c = (crcFinal alg (crcState alg alg.init consumed)).toNat
      · simp [hcmp]
      · simp [hcmp]

/-- C10: the same for `from_bytes_uN`. -/
theorem fromBytesCrcG_eq (alg : CrcAlg w) (nbytes : Nat) (t : Ty) (bs : List Byte) :
    fromBytesCrcG alg nbytes t bs = fromBytesCrc alg nbytes (dec t) bs := by
  unfold fromBytesCrcG fromBytesCrc
  rw [takeFromBytesCrcG_eq]
  cases takeFromBytesCrc alg nbytes (dec t) bs with
  | error e => rfl
  | ok x => rfl

/-- C10: (soundness, code-shaped entry point, no hypothesis): whenever
`take_from_bytes_uN` succeeds on ANY input, the bytes consumed for the value are
followed by their correct little-endian checksum and then by the reported remainder. -/
theorem crc_sound_flavor (alg : CrcAlg w) (nbytes : Nat) (t : Ty) (bs r : List Byte) (v : Val)
    (h : takeFromBytesCrcG alg nbytes t bs = .ok (v, r)) :
    ∃ p c, bs = p ++ c ++ r ∧ c.length = nbytes ∧
      c = leBytes nbytes (crc alg p).toNat ∧ dec t bs = .ok (v, c ++ r) := by
  rw [takeFromBytesCrcG_eq] at h
  exact crc_sound alg nbytes (dec t) (fun _ _ _ hd => dec_consumes_prefix hd) bs r v h

end Postcard
