import Postcard.Lemmas.HasTy
import Postcard.Props.C12Exact
import Postcard.Props.C13
/-
  C12: "POSTCARD_MAX_SIZE is an upper bound on the encoded size
  of every value; for integers, floats, bool, char, arrays, tuples, options and
  fixed-capacity strings/vectors the maximum is attained by some value."

  Code: source/postcard/src/max_size.rs (all built-in impls, `varint_size`,
  `max`) and source/postcard-derive/src/max_size.rs (`#[derive(MaxSize)]`).
  Model: Model/MaxSize.lean (`MTy`, `maxSize`, `tyOf`, `MTy.inhabits`, `MTy.wf`);
  the witness `maxWitness` and the class `MTy.tight` are in Lemmas/MaxSize.lean.
-/
namespace Postcard

/-- C12 (soundness): for every type with a `MaxSize` impl (built-in or derived)
and every value of that type, the encoding has at most `POSTCARD_MAX_SIZE`
bytes: at most the exact maximum `encMax` (Props/C12Exact.lean), which the constant bounds. -/
theorem max_size_sound (m : MTy) (v : Val) (hw : m.wf = true) (h : m.inhabits v = true) :
    (enc v).length ≤ maxSize m :=
  Nat.le_trans (enc_le_encMax m v hw h) (encMax_le_maxSize m hw)

theorem max_size_sound_fields (ts : List MTy) (vs : List Val) (hw : wfList ts = true)
    (h : inhabitsList ts vs = true) : (encList vs).length ≤ sumFrom 0 ts :=
  Nat.le_trans (le_list ts vs hw h) (ems_list ts)

theorem sound_struct : (f : DFields) → (v : Val) → DFields.wf f = true →
    DFields.inhabitsStruct f v = true → (enc v).length ≤ DFields.sum f :=
  fun f v hw h => Nat.le_trans (le_struct f v hw h) (ems_fields f)

theorem sound_variant : (f : DFields) → (v : Val) → DFields.wf f = true →
    DFields.inhabitsVariant f v = true →
    ∃ idx, v.variantIdx? = some idx ∧ (enc v).length ≤ (encVarint 32 idx).length + DFields.sum f :=
  fun f v hw h =>
    have ⟨idx, hi, hb⟩ := le_variant f v hw h
    ⟨idx, hi, Nat.le_trans hb (Nat.add_le_add_left (ems_fields f) _)⟩

theorem sound_enum : (fs : List DFields) → (k : Nat) → (v : Val) → wfVariants fs = true →
    inhabitsEnum fs k v = true →
    k < fs.length ∧ ∃ idx, v.variantIdx? = some idx ∧
      ∀ acc, (enc v).length ≤ (encVarint 32 idx).length + maxVariants acc fs
  | [], _ => fun _ _ h => nomatch h
  | f :: fs, 0 => fun v hw h =>
    have ⟨idx, hi, hb⟩ := sound_variant f v (Bool.and_eq_true_iff.1 hw).1 h
    ⟨Nat.zero_lt_succ _, idx, hi, fun acc =>
      Nat.le_trans hb (Nat.add_le_add_left (maxVariants_ge_head acc f fs) _)⟩
  | f :: fs, k + 1 => fun v hw h =>
    have ⟨hk, idx, hi, hb⟩ := sound_enum fs k v (Bool.and_eq_true_iff.1 hw).2 h
    ⟨Nat.succ_lt_succ hk, idx, hi, fun acc => hb (rmax acc (DFields.sum f))⟩

theorem max_size_tight (m : MTy) (ht : m.tight = true) (hw : m.wf = true) :
    ∃ v, m.inhabits v = true ∧ (enc v).length = maxSize m :=
  ⟨maxWitness m, max_size_tight_witness m ht hw⟩

/-- for a tight type the constant is therefore the exact maximum. -/
theorem max_size_is_max (m : MTy) (ht : m.tight = true) (hw : m.wf = true) :
    (∀ v, m.inhabits v = true → (enc v).length ≤ maxSize m) ∧
    (∃ v, m.inhabits v = true ∧ (enc v).length = maxSize m) :=
  ⟨fun v h => max_size_sound m v hw h, max_size_tight m ht hw⟩

/-- `enum E { V0, V1, …, V127 }` (128 unit variants): `POSTCARD_MAX_SIZE = 2`
(`varint_size_discriminant(128) = 2`) but every value encodes in ONE byte (the
largest index is 127).  The bound is sound but not attained: the derive sizes the
discriminant from the variant COUNT, not from the largest index `count − 1`. -/
theorem denum128_not_tight :
    maxSize (.denum (List.replicate 128 .unit)) = 2 ∧
    (MTy.denum (List.replicate 128 .unit)).wf = true ∧
    (MTy.denum (List.replicate 128 .unit)).inhabits (.unitVariant 127) = true ∧
    ∀ v, (MTy.denum (List.replicate 128 .unit)).inhabits v = true → (enc v).length = 1 := by
  refine ⟨by decide +kernel, by decide +kernel, by decide +kernel, ?_⟩
  intro v h
  obtain ⟨idx, hi, _, hv⟩ := inhabits_denum.1 h
  obtain ⟨f, hf, hfv⟩ := inhabitsEnum_getElem? _ idx v hv
  rw [List.getElem?_replicate] at hf
  split at hf
  next hlt =>
    cases hf
    obtain ⟨_, rfl⟩ := inhabitsVariant_shape hfv
    cases hi
    exact encVarint_small (by decide) hlt
  next => cases hf

theorem tyOfList_length (ts : List MTy) : (tyOfList ts).length = ts.length := by
  induction ts with
  | nil => rfl
  | cons t ts ih => exact congrArg (· + 1) ih

theorem variantTys_getElem? (fs : List DFields) (k : Nat) :
    (variantTys fs)[k]? = (fs[k]?).map DFields.variantTy := by
  induction fs generalizing k with
  | nil => rfl
  | cons f fs ih =>
    cases k with
    | zero => rfl
    | succ k => exact ih k

theorem inh_hasTy_int {s : Bool} {w : IntW} {nz : Bool} {v : Val}
    (h : intInhabits s w nz v = true) : hasTy v (intTy s w) = true := by
  obtain ⟨rfl, n, rfl, hn⟩ | ⟨rfl, x, rfl, hx⟩ := intInhabits_inv h
  · exact Bool.and_eq_true_iff.2 ⟨decide_eq_true rfl, decide_eq_true hn⟩
  · exact Bool.and_eq_true_iff.2 ⟨decide_eq_true rfl, hx⟩

mutual
/-- every value of a Rust type `m` is a well-typed data-model value of the
serde shape `tyOf m` — `MTy.inhabits` only ADDS restrictions to `hasTy`. -/
theorem inhabits_hasTy (m : MTy) (v : Val) (hw : m.wf = true) (h : m.inhabits v = true) :
    hasTy v (tyOf m) = true :=
  match m with
  | .bool => by obtain ⟨b, rfl⟩ := inhabits_shape h; rfl
  | .int _ _ | .usize | .isize | .nonZero _ _ | .nonZeroUsize | .nonZeroIsize => inh_hasTy_int h
  | .f32 | .f64 => by obtain ⟨b, rfl, hb⟩ := inhabits_shape h; exact decide_eq_true hb
  | .char => by obtain ⟨c, rfl, hc⟩ := inhabits_shape h; exact hc
  | .unit | .phantom => by cases inhabits_shape h; rfl
  | .option t => by
    obtain rfl | ⟨w, rfl, hv⟩ := inhabits_shape h
    · rfl
    · exact inhabits_hasTy t w hw hv
  | .result t e => by
    have ⟨hwt, hwe⟩ := Bool.and_eq_true_iff.1 hw
    obtain ⟨w, rfl, hv⟩ | ⟨w, rfl, hv⟩ := inhabits_shape h
    · exact hasTy_newtypeVariant (by decide) rfl (inhabits_hasTy t w hwt hv)
    · exact hasTy_newtypeVariant (by decide) rfl (inhabits_hasTy e w hwe hv)
  | .array t n => by
    obtain ⟨vs, rfl, hall, rfl⟩ := inhabits_shape h
    exact hasTys_replicate.2
      ⟨rfl, fun x hx => inhabits_hasTy t x (Bool.and_eq_true_iff.1 hw).1 (hall x hx)⟩
  | .tuple ts => by
    obtain ⟨vs, rfl, hvs⟩ := inhabits_shape h
    exact inh_hasTys ts vs hw hvs
  | .range t | .rangeInclusive t => by
    obtain ⟨a, b, rfl, ha, hb⟩ := inhabits_shape h
    exact Bool.and_eq_true_iff.2 ⟨inhabits_hasTy t a hw ha,
      Bool.and_eq_true_iff.2 ⟨inhabits_hasTy t b hw hb, rfl⟩⟩
  | .rangeFrom t | .rangeTo t => by
    obtain ⟨a, rfl, ha⟩ := inhabits_shape h
    exact Bool.and_eq_true_iff.2 ⟨inhabits_hasTy t a hw ha, rfl⟩
  | .ref t => inhabits_hasTy t v hw h
  | .hvec t n => by
    have ⟨hwt, hn⟩ := Bool.and_eq_true_iff.1 hw
    obtain ⟨vs, rfl, hall, hlen⟩ := inhabits_shape h
    exact Bool.and_eq_true_iff.2
      ⟨hasTyAll_of_forall fun x hx => inhabits_hasTy t x hwt (hall x hx),
        decide_eq_true (Nat.lt_of_le_of_lt hlen (of_decide_eq_true hn))⟩
  | .hstring n => by
    obtain ⟨s, rfl, hs, hlen⟩ := inhabits_shape h
    exact Bool.and_eq_true_iff.2
      ⟨hs, decide_eq_true (Nat.lt_of_le_of_lt hlen (of_decide_eq_true hw))⟩
  | .dstruct f => inh_hasTy_struct f v hw h
  | .denum fs => by
    obtain ⟨idx, hi, hlt, hv⟩ := inhabits_denum.1 h
    exact inh_hasTy_enum fs idx v (Bool.and_eq_true_iff.1 hw).2 hv (variantTys fs) idx hi hlt rfl
theorem inh_hasTys : (ts : List MTy) → (vs : List Val) → wfList ts = true →
    inhabitsList ts vs = true → hasTys vs (tyOfList ts) = true
  | [] => fun vs _ h => by cases inhabitsList_nil h; rfl
  | t :: ts => fun vs hw h => by
    have ⟨hw1, hw2⟩ := Bool.and_eq_true_iff.1 hw
    obtain ⟨v, vs, rfl, hv, hvs⟩ := inhabitsList_cons h
    exact Bool.and_eq_true_iff.2 ⟨inhabits_hasTy t v hw1 hv, inh_hasTys ts vs hw2 hvs⟩
-- `structTy` / `variantTy` look at the NUMBER of unnamed fields, and so do the patterns
theorem inh_hasTy_struct : (f : DFields) → (v : Val) → DFields.wf f = true →
    DFields.inhabitsStruct f v = true → hasTy v (DFields.structTy f) = true
  | .unit => fun v _ h => by cases inhabitsStruct_shape h; rfl
  | .unnamed [t] => fun v hw h => by
    obtain ⟨w, rfl, _, hv⟩ | ⟨vs, rfl, hl, _⟩ := inhabitsStruct_shape h
    · exact (Bool.and_eq_true_iff.1 (inh_hasTys [t] [w] hw hv)).1
    · exact absurd rfl hl
  | .unnamed [] | .unnamed (_ :: _ :: _) => fun v hw h => by
    obtain ⟨w, rfl, hl, _⟩ | ⟨vs, rfl, _, hv⟩ := inhabitsStruct_shape h
    · cases hl
    · exact inh_hasTys _ vs hw hv
  | .named ts => fun v hw h => by
    obtain ⟨vs, rfl, hv⟩ := inhabitsStruct_shape h
    exact inh_hasTys ts vs hw hv
theorem inh_hasTy_variant : (f : DFields) → (v : Val) → DFields.wf f = true →
    DFields.inhabitsVariant f v = true → (vts : List Ty) → (idx : Nat) →
    v.variantIdx? = some idx → idx < 2 ^ 32 → vts[idx]? = some (DFields.variantTy f) →
    hasTy v (.enum vts) = true
  | .unit => fun v _ h vts idx hi hlt hg => by
    obtain ⟨_, rfl⟩ := inhabitsVariant_shape h
    cases hi
    exact hasTy_unitVariant hlt hg
  | .unnamed [t] => fun v hw h vts idx hi hlt hg => by
    obtain ⟨_, w, rfl, _, hv⟩ | ⟨_, vs, rfl, hl, _⟩ := inhabitsVariant_shape h
    · cases hi
      exact hasTy_newtypeVariant hlt hg (Bool.and_eq_true_iff.1 (inh_hasTys [t] [w] hw hv)).1
    · exact absurd rfl hl
  | .unnamed [] | .unnamed (_ :: _ :: _) => fun v hw h vts idx hi hlt hg => by
    obtain ⟨_, w, rfl, hl, _⟩ | ⟨_, vs, rfl, _, hv⟩ := inhabitsVariant_shape h
    · cases hl
    · cases hi
      exact hasTy_tupleVariant hlt hg (inh_hasTys _ vs hw hv)
  | .named ts => fun v hw h vts idx hi hlt hg => by
    obtain ⟨_, vs, rfl, hv⟩ := inhabitsVariant_shape h
    cases hi
    exact hasTy_structVariant hlt hg (inh_hasTys ts vs hw hv)
theorem inh_hasTy_enum : (fs : List DFields) → (k : Nat) → (v : Val) → wfVariants fs = true →
    inhabitsEnum fs k v = true → (vts : List Ty) → (idx : Nat) →
    v.variantIdx? = some idx → idx < 2 ^ 32 → vts[idx]? = (variantTys fs)[k]? →
    hasTy v (.enum vts) = true
  | [], _ => fun _ _ h => nomatch h
  | f :: _, 0 => fun v hw h => inh_hasTy_variant f v (Bool.and_eq_true_iff.1 hw).1 h
  | _ :: fs, k + 1 => fun v hw h => inh_hasTy_enum fs k v (Bool.and_eq_true_iff.1 hw).2 h
end

/-- hence C01 applies: values of `m` round-trip, and the decoder consumes at
most `POSTCARD_MAX_SIZE` bytes for them. -/
theorem max_size_roundtrip (m : MTy) (v : Val) (hw : m.wf = true) (h : m.inhabits v = true)
    (rest : List Byte) :
    dec (tyOf m) (enc v ++ rest) = .ok (v, rest) ∧ (enc v).length ≤ maxSize m :=
  ⟨roundtrip v (tyOf m) (inhabits_hasTy m v hw h) rest, max_size_sound m v hw h⟩

/- `MTy.inhabits` is not narrower than intended: for every type that imposes no
restriction beyond its serde shape (no `NonZero*`, no `heapless` container
anywhere inside), EVERY well-typed value of shape `tyOf m` is a value of `m`.
So on this fragment `max_size_sound` quantifies over exactly the values `hasTy`
describes (the ones C01 round-trips). -/

mutual
def MTy.plain : MTy → Bool
  | .nonZero _ _ => false
  | .nonZeroUsize => false
  | .nonZeroIsize => false
  | .hvec _ _ => false
  | .hstring _ => false
  | .option t => t.plain
  | .result t e => t.plain && e.plain
  | .array t _ => t.plain
  | .tuple ts => plainList ts
  | .range t => t.plain
  | .rangeInclusive t => t.plain
  | .rangeFrom t => t.plain
  | .rangeTo t => t.plain
  | .ref t => t.plain
  | .dstruct f => DFields.plain f
  | .denum fs => plainVariants fs
  | _ => true
def plainList : List MTy → Bool
  | [] => true
  | t :: ts => t.plain && plainList ts
def DFields.plain : DFields → Bool
  | .unit => true
  | .unnamed ts => plainList ts
  | .named ts => plainList ts
def plainVariants : List DFields → Bool
  | [] => true
  | f :: fs => DFields.plain f && plainVariants fs
end

theorem conv_int {s : Bool} {w : IntW} {v : Val} (h : hasTy v (intTy s w) = true) :
    intInhabits s w false v = true := by
  cases s
  · obtain ⟨n, rfl, hn⟩ := hasTy_shape h
    exact Bool.and_eq_true_iff.2
      ⟨Bool.and_eq_true_iff.2 ⟨decide_eq_true rfl, decide_eq_true hn⟩, rfl⟩
  · obtain ⟨x, rfl, hx⟩ := hasTy_shape h
    exact Bool.and_eq_true_iff.2 ⟨Bool.and_eq_true_iff.2 ⟨decide_eq_true rfl, hx⟩, rfl⟩

mutual
theorem conv_ty : (m : MTy) → (v : Val) → m.plain = true → hasTy v (tyOf m) = true →
    m.inhabits v = true
  | .bool => fun v _ h => by obtain ⟨b, rfl⟩ := hasTy_shape h; rfl
  | .int _ _ | .usize | .isize => fun _ _ h => conv_int h
  | .nonZero _ _ | .nonZeroUsize | .nonZeroIsize | .hvec _ _ | .hstring _ => fun _ hp => nomatch hp
  | .f32 | .f64 => fun v _ h => by
    obtain ⟨b, rfl, hb⟩ := hasTy_shape h; exact decide_eq_true hb
  | .char => fun v _ h => by obtain ⟨c, rfl, hc⟩ := hasTy_shape h; exact hc
  | .unit | .phantom => fun v _ h => by cases hasTy_shape h; rfl
  | .option t => fun v hp h => by
    obtain rfl | ⟨w, rfl, hw⟩ := hasTy_shape h
    · rfl
    · exact conv_ty t w hp hw
  | .result t e => fun v hp h => by
    have ⟨ht, he⟩ := Bool.and_eq_true_iff.1 hp
    obtain ⟨w, rfl, hw⟩ | ⟨w, rfl, hw⟩ := hasTy_result h
    · exact conv_ty t w ht hw
    · exact conv_ty e w he hw
  | .array t n => fun v hp h => by
    obtain ⟨vs, rfl, hvs⟩ := hasTy_shape h
    obtain ⟨h1, h2⟩ := hasTys_replicate.1 hvs
    exact Bool.and_eq_true_iff.2
      ⟨List.all_eq_true.2 fun x hx => conv_ty t x hp (h2 x hx), decide_eq_true h1⟩
  | .tuple ts => fun v hp h => by
    obtain ⟨vs, rfl, hvs⟩ := hasTy_shape h
    exact conv_list ts vs hp hvs
  | .range t | .rangeInclusive t => fun v hp h => by
    obtain ⟨vs, rfl, hvs⟩ := hasTy_shape h
    obtain ⟨a, _, rfl, ha, hvs⟩ := hasTys_cons hvs
    obtain ⟨b, _, rfl, hb, hvs⟩ := hasTys_cons hvs
    cases hasTys_nil hvs
    exact Bool.and_eq_true_iff.2 ⟨conv_ty t a hp ha, conv_ty t b hp hb⟩
  | .rangeFrom t | .rangeTo t => fun v hp h => by
    obtain ⟨vs, rfl, hvs⟩ := hasTy_shape h
    obtain ⟨a, _, rfl, ha, hvs⟩ := hasTys_cons hvs
    cases hasTys_nil hvs
    exact conv_ty t a hp ha
  | .ref t => conv_ty t
  | .dstruct f => conv_struct f
  | .denum fs => fun v hp h => by
    obtain ⟨idx, hi, hlt, _⟩ := hasTy_shape h
    exact inhabits_denum.2 ⟨idx, hi, hlt, conv_enum fs idx v hp (variantTys fs) idx hi rfl h⟩
theorem conv_list : (ts : List MTy) → (vs : List Val) → plainList ts = true →
    hasTys vs (tyOfList ts) = true → inhabitsList ts vs = true
  | [] => fun vs _ h => by cases hasTys_nil h; rfl
  | t :: ts => fun vs hp h => by
    have ⟨hp1, hp2⟩ := Bool.and_eq_true_iff.1 hp
    obtain ⟨v, vs, rfl, hv, hvs⟩ := hasTys_cons h
    exact Bool.and_eq_true_iff.2 ⟨conv_ty t v hp1 hv, conv_list ts vs hp2 hvs⟩
theorem conv_struct : (f : DFields) → (v : Val) → DFields.plain f = true →
    hasTy v (DFields.structTy f) = true → DFields.inhabitsStruct f v = true
  | .unit => fun v _ h => by cases hasTy_shape h; rfl
  | .unnamed [t] => fun v hp h => by
    obtain ⟨w, rfl, hw⟩ := hasTy_shape h
    exact conv_list [t] [w] hp (Bool.and_eq_true_iff.2 ⟨hw, rfl⟩)
  | .unnamed [] | .unnamed (_ :: _ :: _) => fun v hp h => by
    obtain ⟨vs, rfl, hvs⟩ := hasTy_shape h
    exact conv_list _ vs hp hvs
  | .named ts => fun v hp h => by
    obtain ⟨vs, rfl, hvs⟩ := hasTy_shape h
    exact conv_list ts vs hp hvs
theorem conv_variant : (f : DFields) → (v : Val) → DFields.plain f = true →
    (vts : List Ty) → (idx : Nat) → v.variantIdx? = some idx →
    vts[idx]? = some (DFields.variantTy f) → hasTy v (.enum vts) = true →
    DFields.inhabitsVariant f v = true
  | .unit => fun v _ vts idx hi hg h => by cases hasTy_enum_at hi hg h; rfl
  | .unnamed [t] => fun v hp vts idx hi hg h => by
    obtain ⟨w, rfl, hw⟩ := hasTy_enum_at hi hg h
    exact conv_list [t] [w] hp (Bool.and_eq_true_iff.2 ⟨hw, rfl⟩)
  | .unnamed [] | .unnamed (_ :: _ :: _) => fun v hp vts idx hi hg h => by
    obtain ⟨vs, rfl, hvs⟩ := hasTy_enum_at hi hg h
    exact conv_list _ vs hp hvs
  | .named ts => fun v hp vts idx hi hg h => by
    obtain ⟨vs, rfl, hvs⟩ := hasTy_enum_at hi hg h
    exact conv_list ts vs hp hvs
theorem conv_enum : (fs : List DFields) → (k : Nat) → (v : Val) → plainVariants fs = true →
    (vts : List Ty) → (idx : Nat) → v.variantIdx? = some idx →
    vts[idx]? = (variantTys fs)[k]? → hasTy v (.enum vts) = true →
    inhabitsEnum fs k v = true
  | [], _ => fun _ _ _ _ hi hg h => (hasTy_enum_at hi hg h).elim
  | f :: _, 0 => fun v hp => conv_variant f v (Bool.and_eq_true_iff.1 hp).1
  | _ :: fs, k + 1 => fun v hp => conv_enum fs k v (Bool.and_eq_true_iff.1 hp).2
end

theorem inhabits_iff_hasTy (m : MTy) (v : Val) (hw : m.wf = true) (hp : m.plain = true) :
    m.inhabits v = true ↔ hasTy v (tyOf m) = true :=
  ⟨inhabits_hasTy m v hw, conv_ty m v hp⟩

/-- C13's `#[serde(with = "postcard::fixint::le")]` fields: `#[derive(MaxSize)]` looks only at
the field TYPE, not at serde attributes.  A fixint-adapted integer field is nevertheless within
the bound the derive uses for it: `size_of::<T>() ≤ varint_max::<T>()`. -/
theorem fixint_within_max_size (w : IntW) (s : Bool) (x : Int) :
    (enc (fixLE w s x)).length ≤ maxSize (.int s w) ∧
    (enc (fixBE w s x)).length ≤ maxSize (.int s w) := by
  obtain ⟨h1, h2⟩ := fixint_length w s x
  rw [h1, h2]
  cases w <;> cases s <;> decide

section Examples
private abbrev u8' : MTy := .int false .w8
private abbrev u16' : MTy := .int false .w16
private abbrev u32' : MTy := .int false .w32
private abbrev u128' : MTy := .int false .w128

-- tests/max_size.rs::test_struct_max_size: `struct Foo { _a: u16, _b: Option<u8> }`
example : maxSize (.dstruct (.named [u16', .option u8'])) = 5 := by decide +kernel
-- tests/max_size.rs::test_enum_max_size: `enum Bar { A(u16), B(u8) }`, `enum Baz {}`
example : maxSize (.denum [.unnamed [u16'], .unnamed [u8']]) = 4 := by decide +kernel
example : maxSize (.denum []) = 0 := by decide +kernel
example : (MTy.denum [.unnamed [u16'], .unnamed [u8']]).inhabits
      (.newtypeVariant 0 (.u .w16 0xFFFF)) = true
    ∧ enc (.newtypeVariant 0 (.u .w16 0xFFFF)) = [0, 0xFF, 0xFF, 0x03] := by decide +kernel
example (v : Val) : (MTy.denum []).inhabits v = false :=
  Bool.eq_false_iff.2 fun h => by
    obtain ⟨_, _, _, he⟩ := inhabits_denum.1 h
    cases he
-- max_size.rs::tests::box_max_size / arc_max_size / rc_max_size
example : maxSize (.ref u8') = 1 ∧ maxSize (.ref u32') = 5
    ∧ maxSize (.ref (.tuple [u128', .array u8' 8])) = 27 := by decide +kernel
-- tests/max_size.rs::test_vec_edge_cases: a FULL `heapless::Vec<u8, N>` serialises to
-- exactly `POSTCARD_MAX_SIZE` bytes for N = 1, 2, 127, 128, 129, 16383, 16384, 16385
-- (instances of `max_size_tight_witness`)
example : (enc (maxWitness (.hvec u8' 127))).length = maxSize (.hvec u8' 127) :=
  (max_size_tight_witness _ (by decide) (by decide)).2
example : maxSize (.hvec u8' 1) = 2 ∧ maxSize (.hvec u8' 2) = 3 ∧ maxSize (.hvec u8' 127) = 128
    ∧ maxSize (.hvec u8' 128) = 130 ∧ maxSize (.hvec u8' 129) = 131
    ∧ maxSize (.hvec u8' 16383) = 16385 ∧ maxSize (.hvec u8' 16384) = 16387
    ∧ maxSize (.hvec u8' 16385) = 16388 := by decide +kernel
example : varintSize 0 = 1 ∧ varintSize 1 = 1 ∧ varintSize 127 = 1 ∧ varintSize 128 = 2
    ∧ varintSize 16383 = 2 ∧ varintSize 16384 = 3 ∧ varintSize (2 ^ 64 - 1) = 10 := by
  decide +kernel
example : varintSizeDiscriminant 0 = 0 ∧ varintSizeDiscriminant 1 = 1
    ∧ varintSizeDiscriminant 127 = 1 ∧ varintSizeDiscriminant 128 = 2
    ∧ varintSizeDiscriminant (2 ^ 32 - 1) = 5 := by decide +kernel
example : maxSize .bool = 1 ∧ maxSize (.int true .w8) = 1 ∧ maxSize (.int true .w16) = 3
    ∧ maxSize u32' = 5 ∧ maxSize (.int true .w64) = 10 ∧ maxSize u128' = 19
    ∧ maxSize .usize = 10 ∧ maxSize .isize = 10 ∧ maxSize .f32 = 4 ∧ maxSize .f64 = 8
    ∧ maxSize .char = 5 ∧ maxSize .unit = 0 ∧ maxSize .phantom = 0
    ∧ maxSize (.nonZero false .w8) = 1 ∧ maxSize .nonZeroUsize = 10 := by decide +kernel
example : maxSize (.option u32') = 6 ∧ maxSize (.result u8' u32') = 6
    ∧ maxSize (.result u32' u8') = 6 ∧ maxSize (.range u16') = 6
    ∧ maxSize (.rangeInclusive u16') = 6 ∧ maxSize (.rangeFrom u16') = 3
    ∧ maxSize (.rangeTo u16') = 3 ∧ maxSize (.hstring 10) = 11
    ∧ maxSize (.tuple [u8', u16', u32', .bool, .char, .f64]) = 23 := by decide +kernel
example : enc (maxWitness u16') = [0xFF, 0xFF, 0x03] := by decide +kernel
example : enc (maxWitness (.int true .w16)) = [0xFF, 0xFF, 0x03] := by decide +kernel
example : enc (maxWitness .char) = [4, 0xF0, 0x90, 0x80, 0x80] := by decide +kernel
example : enc (maxWitness (.hstring 3)) = [3, 0x41, 0x41, 0x41] := by decide +kernel
example : enc (maxWitness (.result u8' u16')) = [1, 0xFF, 0xFF, 0x03] := by decide +kernel
example : maxWitness (.dstruct (.unnamed [u8'])) = .newtypeStruct (.u .w8 255) := by rfl
-- the extra restrictions of `MTy.inhabits` matter: the serde shape alone is not
-- enough for the bound (an over-full `heapless::Vec<u8, 2>` would need 4 > 3 bytes)
example : hasTy (.seq [.u .w8 1, .u .w8 2, .u .w8 3]) (tyOf (.hvec u8' 2)) = true
    ∧ (MTy.hvec u8' 2).inhabits (.seq [.u .w8 1, .u .w8 2, .u .w8 3]) = false
    ∧ (enc (.seq [.u .w8 1, .u .w8 2, .u .w8 3])).length = 4
    ∧ maxSize (.hvec u8' 2) = 3 := by decide +kernel
example : (MTy.nonZero false .w16).inhabits (.u .w16 0) = false
    ∧ (MTy.nonZero false .w16).inhabits (.u .w16 1) = true
    ∧ (MTy.int false .w16).inhabits (.u .w16 0) = true := by decide +kernel
end Examples

end Postcard
