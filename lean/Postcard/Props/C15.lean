import Postcard.Lemmas.SchemaSer
import Postcard.Model.SchemaFmt
/-
  Property C15 — "Borrowed and owned schemas are the same thing on the wire".

  Model: Postcard/Model/SchemaSer.lean.  `idxBorrowed`/`serBorrowed` transcribe
  schema/mod.rs, `idxOwned`/`serOwned`/`decOwned` transcribe schema/owned.rs,
  `conv` transcribes the `From<&Borrowed> for Owned` impls.
-/
namespace Postcard

theorem idxOwned_injective : ∀ a b : SchemaKind, idxOwned a = idxOwned b → a = b := by
  intro a b h
  have := congrArg kindOfIdxOwned h
  simpa [kindOfIdxOwned_idxOwned] using this

theorem idxBorrowed_injective : ∀ a b : SchemaKind, idxBorrowed a = idxBorrowed b → a = b := by
  intro a b h
  rw [tables_equal, tables_equal] at h
  exact idxOwned_injective a b h

theorem dataIdxOwned_injective : ∀ a b : DataKind, dataIdxOwned a = dataIdxOwned b → a = b := by
  intro a b h
  have := congrArg dataKindOfIdxOwned h
  simpa [dataKindOfIdxOwned_dataIdxOwned] using this

theorem dataIdxBorrowed_injective :
    ∀ a b : DataKind, dataIdxBorrowed a = dataIdxBorrowed b → a = b := by
  intro a b h
  rw [data_tables_equal, data_tables_equal] at h
  exact dataIdxOwned_injective a b h

theorem tables_inverse :
    (∀ k, kindOfIdxOwned (idxOwned k) = some k) ∧
    (∀ i k, kindOfIdxOwned i = some k → idxOwned k = i) ∧
    (∀ k, dataKindOfIdxOwned (dataIdxOwned k) = some k) ∧
    (∀ i k, dataKindOfIdxOwned i = some k → dataIdxOwned k = i) := by
  refine ⟨kindOfIdxOwned_idxOwned, ?_, dataKindOfIdxOwned_dataIdxOwned, ?_⟩
  · intro i k h
    unfold kindOfIdxOwned at h
    split at h
    all_goals cases h
    all_goals rfl
  · intro i k h
    unfold dataKindOfIdxOwned at h
    split at h
    all_goals cases h
    all_goals rfl

theorem idx_lt_u32 : (∀ k, idxOwned k < 2 ^ 32) ∧ (∀ k, dataIdxOwned k < 2 ^ 32) :=
  ⟨idxOwned_lt, dataIdxOwned_lt⟩

theorem conv_kind (s : Schema) : (conv s).kind = s.kind := by rw [conv_id]

theorem punning_val (s : Schema) : serBorrowed s = serOwned (conv s) := by
  rw [conv_id]; exact serBorrowed_eq tables_equal data_tables_equal s

/-- A borrowed schema and its owned conversion have the same postcard bytes. -/
theorem punning (s : Schema) : enc (serBorrowed s) = enc (serOwned (conv s)) := by
  rw [punning_val]

theorem punning_data (d : SData) : enc (serBorrowedData d) = enc (serOwnedData (convData d)) := by
  rw [convData_id, serBorrowedData_eq tables_equal data_tables_equal d]

-- The theorems below take the varint round trip for `bits ∈ {32, 64}` as the explicit
-- hypothesis `hv`; it is `varint_rt_32_64` (Lemmas/SchemaSer), which the closed forms put in.

/-- Serialising an owned schema and deserialising it again gives the same
schema and leaves the remainder untouched, for every schema a Rust value can
be (`SchemaWf`: names valid UTF-8, lengths < 2^64), for every fuel that covers
the nesting (`s.size ≤ fuel`). -/
theorem owned_roundtrip
    (hv : ∀ bits n rest, (bits = 32 ∨ bits = 64) → n < 2 ^ bits →
      decVarint bits (encVarint bits n ++ rest) = .ok (n, rest))
    (s : Schema) (hw : SchemaWf s) (fuel : Nat) (hf : s.size ≤ fuel) (rest : List Byte) :
    decOwned fuel (enc (serOwned s) ++ rest) = .ok (s, rest) :=
  rt_schema hv s fuel rest hf hw

theorem owned_data_roundtrip
    (hv : ∀ bits n rest, (bits = 32 ∨ bits = 64) → n < 2 ^ bits →
      decVarint bits (encVarint bits n ++ rest) = .ok (n, rest))
    (d : SData) (hw : d.wf = true) (fuel : Nat) (hf : d.size ≤ fuel) (rest : List Byte) :
    decOwnedData fuel (enc (serOwnedData d) ++ rest) = .ok (d, rest) :=
  rt_data hv d fuel rest hf hw

theorem serOwned_injective
    (hv : ∀ bits n rest, (bits = 32 ∨ bits = 64) → n < 2 ^ bits →
      decVarint bits (encVarint bits n ++ rest) = .ok (n, rest))
    (s t : Schema) (hs : SchemaWf s) (ht : SchemaWf t)
    (h : enc (serOwned s) = enc (serOwned t)) : s = t := by
  have h1 := owned_roundtrip hv s hs (s.size + t.size) (by omega) []
  have h2 := owned_roundtrip hv t ht (s.size + t.size) (by omega) []
  rw [h, h2] at h1
  cases h1; rfl

/-- C15: the bytes of an owned schema decode back to it (any remainder untouched). -/
theorem owned_roundtrip_closed (s : Schema) (hw : SchemaWf s) (rest : List Byte) :
    decOwnedBytes (enc (serOwned s) ++ rest) = .ok (s, rest) := by
  unfold decOwnedBytes
  refine owned_roundtrip varint_rt_32_64 s hw _ ?_ rest
  have := size_le_enc s  -- every node occupies at least one byte
  rw [List.length_append]; omega

/-- C15, the intended use: a device sends its static (borrowed) schema `T::SCHEMA`, any host reads
the bytes back as the owned conversion of that schema. -/
theorem borrowed_owned_roundtrip_closed (s : Schema) (hw : SchemaWf s) (fuel : Nat)
    (hf : s.size ≤ fuel) (rest : List Byte) :
    decOwned fuel (enc (serBorrowed s) ++ rest) = .ok (conv s, rest) := by
  rw [punning, conv_id]
  exact owned_roundtrip varint_rt_32_64 s hw fuel hf rest

section Examples

private def pt : Schema :=
  .struct (ascii "Pt") (.struct [.mk (ascii "x") .u8, .mk (ascii "y") (.tuple [.u16, .u16, .u16])])

private def ex : Schema :=
  .enum (ascii "E")
    [.mk (ascii "A") .unit, .mk (ascii "B") (.newtype pt),
     .mk (ascii "C") (.tuple [.u8, .string]),
     .mk (ascii "D") (.struct [.mk (ascii "f") (.map .u8 (.option .bool))])]

example : SchemaWf ex := by decide +kernel
example : ex.size = 18 := by decide +kernel
-- byte strings below are the output of `postcard::to_stdvec` on the corresponding Rust values
example : enc (serOwned pt) = [23, 2, 80, 116, 3, 2, 1, 120, 2, 1, 121, 21, 3, 7, 7, 7] := by
  decide +kernel
example : enc (serBorrowed pt) = [23, 2, 80, 116, 3, 2, 1, 120, 2, 1, 121, 21, 3, 7, 7, 7] := by
  decide +kernel
example : enc (serBorrowed ex) =
    [24, 1, 69, 4, 1, 65, 0, 1, 66, 1, 23, 2, 80, 116, 3, 2, 1, 120, 2, 1, 121, 21, 3, 7, 7, 7,
     1, 67, 2, 2, 2, 16, 1, 68, 3, 1, 1, 102, 22, 2, 18, 0] := by decide +kernel
example : decOwned 5 (enc (serOwned pt) ++ [9]) = .ok (pt, [9]) := rfl
example : decOwnedBytes (enc (serBorrowed ex)) = .ok (ex, []) := rfl
example : decOwned ex.size (enc (serBorrowed ex) ++ [1, 2]) = .ok (conv ex, [1, 2]) := rfl
-- error paths of the decoder (as the real `from_bytes::<OwnedDataModelType>` reports them)
example : decOwnedBytes [26] = .error .custom := rfl                   -- variant index out of range
example : decOwnedBytes [23, 1, 0xff, 0] = .error .badUtf8 := rfl       -- struct name not UTF-8
example : decOwnedBytes [23, 1, 0x41, 4] = .error .custom := rfl        -- data index out of range
example : decOwnedBytes [21, 2, 0] = .error .unexpectedEnd := rfl       -- tuple announces 2, has 1
example : decOwnedBytes [] = .error .unexpectedEnd := rfl
-- the fuel bound in `owned_roundtrip` is about nesting: too little fuel is reported, not misdecoded
example : decOwned 2 (enc (serOwned pt)) = .error .panic := rfl
example : ¬ SchemaWf (.struct [0xff] .unit) := by decide +kernel
example : decOwnedBytes (enc (serOwned (.struct [0xff] .unit))) = .error .badUtf8 := rfl
example : idxOwned .struct = 23 ∧ idxBorrowed .enum = 24 ∧ dataIdxOwned .struct = 3 := by
  decide +kernel

end Examples

end Postcard
