import Postcard.Lemmas.Conforms
import Postcard.Lemmas.SchemaFmt
/-
  Property C14 — "A type's Schema describes exactly what its Serialize writes."
  `schemaOf repaired r` is `<r as Schema>::SCHEMA` (`repaired = false`: the derive before the
  raw-identifier repair), `callTree r v` the serde calls of `r`'s `Serialize` (MODELLED: serde,
  serde_derive, heapless, uuid, chrono and nalgebra are external code), both in
  Model/SchemaImpls; `conforms` and the schema-driven reader `schemaParse` / `schemaRead`
  (Spec/Conforms) are the specification.
-/
namespace Postcard

/-- both derive versions at once: conformance holds whenever every field and
variant identifier in `r` is named as serde_derive names it
(`RTy.namesOk repaired`: vacuous for `repaired = true`, "no raw identifier" for
`repaired = false`).  The scope condition `hwf` says for which `r` the two impls exist; the
proof does not need it (`callTree_sound`). -/
theorem schema_conforms_of_namesOk (repaired : Bool) (r : RTy) (v : RV) (c : CT)
    (hwf : RTy.wf r = true) (hn : RTy.namesOk repaired r = true)
    (h : callTree r v = some c) : conforms c (schemaOf repaired r) = true :=
  have _ := hwf
  (callTree_sound repaired r v c h).2 hn

/-- C14 (conformance).  For every Rust type `r` that has both impls (`RTy`, in
scope `RTy.wf`: tuple arity 1–6, array length ≤ 32) and every value `v` of it,
the serde call tree `c` that `Serialize` emits — kinds, field names and order,
variant names and indices, arity, element types — conforms to
`<r as Schema>::SCHEMA` as declared by the current (repaired) derive,
`schemaOf true`.

FULL: no condition on identifiers; derived structs / enums may use raw
identifiers (`r#type`) as field, variant or type names. -/
theorem schema_conforms (r : RTy) (v : RV) (c : CT) (hwf : RTy.wf r = true)
    (h : callTree r v = some c) : conforms c (schemaOf true r) = true :=
  schema_conforms_of_namesOk true r v c hwf (RTy.namesOk_true r) h

theorem schema_conforms_list (ts : List RTy) (vs : List RV) (cs : List CT)
    (hwf : RTy.wfList ts = true) (h : callTrees ts vs = some cs) :
    conformsList cs (schemaOfList true ts) = true :=
  have _ := hwf
  (callTrees_sound true ts vs cs h).2 (RTy.namesOkList_true ts)

/-- the derive BEFORE the repair (`schemaOf false`).  PARTIAL: restricted to
derive inputs without a raw identifier as a field or variant name
(`RTy.namesOk false`, i.e. `Ident.plain` everywhere); outside that restriction
the statement is false (`raw_ident_not_conforms`). -/
theorem schema_conforms_unrepaired_partial (r : RTy) (v : RV) (c : CT) (hwf : RTy.wf r = true)
    (hplain : RTy.namesOk false r = true) (h : callTree r v = some c) :
    conforms c (schemaOf false r) = true :=
  schema_conforms_of_namesOk false r v c hwf hplain h

/-! FINDING (repaired): raw identifiers

The unrepaired `#[derive(Schema)]` names fields and variants with
`ident.to_string()`, which keeps the `r#` of a raw identifier;
`#[derive(Serialize)]` uses the unraw'ed identifier.  Observed on the real
crates (recording serializer) with the UNREPAIRED derive:
`#[derive(Serialize, Schema)] struct Raw { r#type: u8, r#fn: u8 }`
  SCHEMA = Struct { name: "Raw", data: Struct([NamedField { name: "r#type", ty: U8 },
                                               NamedField { name: "r#fn", ty: U8 }]) }
  calls  = serialize_struct("Raw", 2); serialize_field("type", 1u8); serialize_field("fn", 2u8)
`enum RawEn { r#type, r#Match(u8) }`: SCHEMA variant names "r#type", "r#Match";
  calls = serialize_unit_variant("RawEn", 0, "type") /
          serialize_newtype_variant("RawEn", 1, "Match", _).
The repaired derive calls `.unraw()` on field and variant identifiers
(`schemaOf true`); the three theorems below are about `schemaOf false`. -/

/-- `struct Raw { r#type: u8, r#fn: u8 }` -/
def C14.rawStruct : RTy :=
  .dstruct (.ofString "Raw")
    (.named [.mk ⟨true, ascii "type"⟩ (.uint .w8), .mk ⟨true, ascii "fn"⟩ (.uint .w8)])

/-- `enum RawEn { r#type, r#Match(u8) }` -/
def C14.rawEnum : RTy :=
  .denum (.ofString "RawEn")
    [.mk ⟨true, ascii "type"⟩ .unit, .mk ⟨true, ascii "Match"⟩ (.unnamed [.uint .w8])]

/-- UNREPAIRED derive: the negation of conformance, on a concrete witness:
`Raw { r#type: 1, r#fn: 2 }` serialises as a struct with fields "type", "fn";
its pre-repair schema says "r#type", "r#fn".  The witness is in scope
(`RTy.wf`); what it violates is the name restriction `RTy.namesOk false`. -/
theorem raw_ident_not_conforms :
    schemaOf false C14.rawStruct =
      .struct (ascii "Raw") (.struct [.mk (ascii "r#type") .u8, .mk (ascii "r#fn") .u8]) ∧
    callTree C14.rawStruct (.list [.nat 1, .nat 2]) =
      some (.struct (ascii "Raw") [ascii "type", ascii "fn"] [.u .w8 1, .u .w8 2]) ∧
    (∃ c, callTree C14.rawStruct (.list [.nat 1, .nat 2]) = some c ∧
      conforms c (schemaOf false C14.rawStruct) = false) ∧
    RTy.wf C14.rawStruct = true ∧ RTy.namesOk false C14.rawStruct = false := by
  refine ⟨by decide +kernel, ?call, ⟨_, ?call, by decide +kernel⟩, by decide +kernel,
    by decide +kernel⟩
  rfl

/-- UNREPAIRED derive: the same for variant names: `RawEn::r#Match(1)`. -/
theorem raw_variant_not_conforms :
    schemaOf false C14.rawEnum =
      .enum (ascii "RawEn") [.mk (ascii "r#type") .unit, .mk (ascii "r#Match") (.newtype .u8)] ∧
    callTree C14.rawEnum (.variant 1 [.nat 1]) =
      some (.newtypeVariant (ascii "RawEn") 1 (ascii "Match") (.u .w8 1)) ∧
    (∃ c, callTree C14.rawEnum (.variant 1 [.nat 1]) = some c ∧
      conforms c (schemaOf false C14.rawEnum) = false) ∧
    RTy.wf C14.rawEnum = true ∧ RTy.namesOk false C14.rawEnum = false := by
  refine ⟨by decide +kernel, ?call, ⟨_, ?call, by decide +kernel⟩, by decide +kernel,
    by decide +kernel⟩
  rfl

/-- UNREPAIRED derive: not an accident of the witness: a struct whose FIRST
field is a raw identifier conforms for NO value, whatever the field types. -/
theorem raw_field_never_conforms (sid : Ident) (fname : Name) (t : RTy) (fs : List DeriveField)
    (v : RV) (c : CT)
    (h : callTree (.dstruct sid (.named (.mk ⟨true, fname⟩ t :: fs))) v = some c) :
    conforms c (schemaOf false (.dstruct sid (.named (.mk ⟨true, fname⟩ t :: fs)))) =
      false := by
  cases v with
  | list vs =>
    obtain ⟨cs, hcs, ⟨⟩⟩ := Option.map_eq_some_iff.1 h
    cases vs with
    | nil => cases hcs
    | cons v vs =>
      unfold callNamed at hcs
      split at hcs
      · cases hcs
        -- the first field: serde's key `fname` against the schema's `r#` ++ `fname`
        show (decide (fname = ascii "r#" ++ fname) && _ && _) = false
        rw [decide_eq_false fun he => absurd (List.self_eq_append_left.1 he) (by decide)]
        rfl
      · cases hcs
  | _ => contradiction

/-- the wire format carries no names, so the mismatch is invisible to a
schema-driven reader: the bytes of the witness are still parsed exactly. -/
example : schemaRead (schemaOf false C14.rawStruct) ([1, 2] ++ [9]) =
    .ok (.struct [.u .w8 1, .u .w8 2], [9]) := by rfl

-- SCHEMA (repaired): Struct { name: "Raw", data: Struct([{ "type", U8 }, { "fn", U8 }]) }
example : schemaOf true C14.rawStruct =
    .struct (ascii "Raw") (.struct [.mk (ascii "type") .u8, .mk (ascii "fn") .u8]) := by
  decide +kernel
example : schemaOf true C14.rawEnum =
    .enum (ascii "RawEn") [.mk (ascii "type") .unit, .mk (ascii "Match") (.newtype .u8)] := by
  decide +kernel
example : (callTree C14.rawStruct (.list [.nat 1, .nat 2])).map
    (conforms · (schemaOf true C14.rawStruct)) = some true := by decide +kernel
example : ∀ v ∈ [RV.variant 0 [], .variant 1 [.nat 1]],
    (callTree C14.rawEnum v).map (conforms · (schemaOf true C14.rawEnum)) = some true := by
  decide +kernel
example : conforms (.struct (ascii "Raw") [ascii "type", ascii "fn"] [.u .w8 1, .u .w8 2])
    (schemaOf true C14.rawStruct) = true :=
  schema_conforms C14.rawStruct (.list [.nat 1, .nat 2]) _ (by decide +kernel) (by rfl)
example : conforms (.newtypeVariant (ascii "RawEn") 1 (ascii "Match") (.u .w8 1))
    (schemaOf true C14.rawEnum) = true :=
  schema_conforms C14.rawEnum (.variant 1 [.nat 1]) _ (by decide +kernel) (by rfl)
example : RTy.wf C14.rawStruct = true ∧ RTy.wf C14.rawEnum = true := by decide +kernel
-- a raw identifier as the TYPE name (`struct r#Type { r#fn: u8 }`): the type name keeps its
-- `r#` in the schema (`name.to_string()`), serde drops it; type names are not compared
example : (callTree
      (.dstruct ⟨true, ascii "Type"⟩ (.named [.mk ⟨true, ascii "fn"⟩ (.uint .w8)]))
      (.list [.nat 1])).map
    (fun c => (c, conforms c (schemaOf true
      (.dstruct ⟨true, ascii "Type"⟩ (.named [.mk ⟨true, ascii "fn"⟩ (.uint .w8)]))))) =
    some (.struct (ascii "Type") [ascii "fn"] [.u .w8 1], true) := by rfl
example : schemaOf true
      (.dstruct ⟨true, ascii "Type"⟩ (.named [.mk ⟨true, ascii "fn"⟩ (.uint .w8)]))
    = .struct (ascii "r#Type") (.struct [.mk (ascii "fn") .u8]) := by decide +kernel

/-- C14 (reader).  If the call tree `c` conforms to the schema `s` and is a
well-formed value (integers in range, valid UTF-8, scalar `char`s, lengths
`< 2^64`, variant indices `< 2^32`: `CT.wfVal`), then the schema-driven reader,
given enough fuel for embedded schema values (`fuel` more than the encoding's
length always suffices), parses the encoding of `c` followed by anything:
it returns the name-free skeleton of `c` and exactly the trailing bytes.
All schema kinds, including `.schema`. -/
theorem schema_reader (c : CT) (s : Schema) (h : conforms c s = true) (hw : CT.wfVal c = true)
    (fuel : Nat) (hf : (enc c.erase).length < fuel) (rest : List Byte) :
    schemaParse fuel s (enc c.erase ++ rest) = .ok (c.erase, rest) :=
  (sr_conforms fuel).1 c s h hw hf rest

/-- fuel-free form (`schemaRead` supplies `bs.length + 1`). -/
theorem schema_reader_bytes (c : CT) (s : Schema) (h : conforms c s = true)
    (hw : CT.wfVal c = true) (rest : List Byte) :
    schemaRead s (enc c.erase ++ rest) = .ok (c.erase, rest) := by
  unfold schemaRead
  refine schema_reader c s h hw _ ?_ rest
  rw [List.length_append]
  omega

/-- `conforms _ .schema` says what it should: the value is, up to type names,
the call tree of a schema value, hence its bytes are that schema's bytes. -/
theorem conforms_schema_iff (c : CT) :
    conforms c .schema = true ↔
      ∃ s', toSchema c = some s' ∧ CT.eqModTy c (ctSchema true s') = true := by
  rw [conforms_schema, isSchemaTree]
  cases toSchema c <;> simp

theorem conforms_schema_erase (c : CT) (h : conforms c .schema = true) :
    ∃ s', c.erase = serOwned s' :=
  isSchemaTree_erase ((conforms_schema c).symm.trans h)

/-- both families' call trees of every schema value conform to `.schema`. -/
theorem ctSchema_conforms (o : Bool) (s : Schema) : conforms (ctSchema o s) .schema = true :=
  (conforms_schema _).trans (isSchemaTree_ctSchema o s)

theorem callTree_wfVal (r : RTy) (v : RV) (c : CT) (h : callTree r v = some c) :
    CT.wfVal c = true :=
  (callTree_sound true r v c h).1

/-- C14 (consequence).  For every in-scope type and every value, a reader that
is given nothing but `T::SCHEMA` parses the postcard encoding of the value and
consumes it exactly. -/
theorem schema_describes_serialize (r : RTy) (v : RV) (c : CT) (hwf : RTy.wf r = true)
    (h : callTree r v = some c) (rest : List Byte) :
    schemaRead (schemaOf true r) (enc c.erase ++ rest) = .ok (c.erase, rest) :=
  schema_reader_bytes c (schemaOf true r) (schema_conforms r v c hwf h)
    (callTree_wfVal r v c h) rest

/-! Concrete types.  `SCHEMA`, call sequence and bytes in the comments are the output of the real
crates (postcard-schema with all integrations, serde 1.0.228, a recording
`Serializer`, `postcard::to_stdvec`). -/

section Examples

private def i32T : RTy := .sint .w32
/-- `#[derive(Serialize, Schema)] struct Point { x: i32, y: i32 }` -/
private def point : RTy :=
  .dstruct (.ofString "Point") (.named [.mk (.ofString "x") i32T, .mk (.ofString "y") i32T])
/-- `enum En { A, B(u8), C(u8, u16), D { p: Point, q: bool }, E(), F {} }` -/
private def en : RTy :=
  .denum (.ofString "En")
    [.mk (.ofString "A") .unit, .mk (.ofString "B") (.unnamed [.uint .w8]),
     .mk (.ofString "C") (.unnamed [.uint .w8, .uint .w16]),
     .mk (.ofString "D") (.named [.mk (.ofString "p") point, .mk (.ofString "q") .bool]),
     .mk (.ofString "E") (.unnamed []), .mk (.ofString "F") (.named [])]
/-- `struct Gen<T, U> { a: T, b: Option<U> }` at `T = u8, U = NT`, `struct NT(u16)`;
`struct Lt<'a> { s: &'a str, b: &'a [u8] }` -/
private def nt : RTy := .dstruct (.ofString "NT") (.unnamed [.uint .w16])
private def gen : RTy :=
  .dstruct (.ofString "Gen") (.named [.mk (.ofString "a") (.uint .w8),
    .mk (.ofString "b") (.option nt)])
private def lt : RTy :=
  .dstruct (.ofString "Lt") (.named [.mk (.ofString "s") (.ref .str),
    .mk (.ofString "b") (.ref (.slice (.uint .w8)))])

example : RTy.wf point = true ∧ RTy.wf en = true ∧ RTy.wf gen = true ∧ RTy.wf lt = true := by
  decide +kernel

-- SCHEMA: Struct { name: "Point", data: Struct([NamedField { name: "x", ty: I32 }, { "y", I32 }]) }
example : schemaOf true point =
    .struct (ascii "Point") (.struct [.mk (ascii "x") .i32, .mk (ascii "y") .i32]) := by
  decide +kernel
-- CALLS: struct[Point,2](x=i32(1), y=i32(-1));  BYTES: [2, 1]
example : callTree point (.list [.int 1, .int (-1)]) =
    some (.struct (ascii "Point") [ascii "x", ascii "y"] [.i .w32 1, .i .w32 (-1)]) := by rfl
example : (callTree point (.list [.int 1, .int (-1)])).map (conforms · (schemaOf true point))
    = some true := by decide +kernel
example : (callTree point (.list [.int 1, .int (-1)])).map (fun c => enc c.erase)
    = some [2, 1] := by decide +kernel
example : schemaRead (schemaOf true point) [2, 1, 7] =
    .ok (.struct [.i .w32 1, .i .w32 (-1)], [7]) := by
  rfl

example : schemaOf true en = .enum (ascii "En")
    [.mk (ascii "A") .unit, .mk (ascii "B") (.newtype .u8), .mk (ascii "C") (.tuple [.u8, .u16]),
     .mk (ascii "D") (.struct [.mk (ascii "p") (schemaOf true point), .mk (ascii "q") .bool]),
     .mk (ascii "E") (.tuple []), .mk (ascii "F") (.struct [])] := by decide +kernel
-- CALLS: unit_variant[En,0,A]; newtype_variant[En,1,B](u8(1));
--        tuple_variant[En,2,C,2](u8(1), u16(2));
--        struct_variant[En,3,D,2](p=struct[Point,2](x=i32(0), y=i32(0)), q=bool(true));
--        tuple_variant[En,4,E,0](); struct_variant[En,5,F,0]()
example : callTree en (.variant 0 []) = some (.unitVariant (ascii "En") 0 (ascii "A")) := by rfl
example : callTree en (.variant 1 [.nat 1]) =
    some (.newtypeVariant (ascii "En") 1 (ascii "B") (.u .w8 1)) := by rfl
example : callTree en (.variant 2 [.nat 1, .nat 2]) =
    some (.tupleVariant (ascii "En") 2 (ascii "C") [.u .w8 1, .u .w16 2]) := by rfl
example : callTree en (.variant 3 [.list [.int 0, .int 0], .bool true]) =
    some (.structVariant (ascii "En") 3 (ascii "D") [ascii "p", ascii "q"]
      [.struct (ascii "Point") [ascii "x", ascii "y"] [.i .w32 0, .i .w32 0], .bool true]) := by
  rfl
example : callTree en (.variant 4 []) = some (.tupleVariant (ascii "En") 4 (ascii "E") []) := by
  rfl
example : callTree en (.variant 5 []) =
    some (.structVariant (ascii "En") 5 (ascii "F") [] []) := by rfl
example : ∀ v ∈ [RV.variant 0 [], .variant 1 [.nat 1], .variant 2 [.nat 1, .nat 2],
      .variant 3 [.list [.int 0, .int 0], .bool true], .variant 4 [], .variant 5 []],
    (callTree en v).map (conforms · (schemaOf true en)) = some true := by decide +kernel
-- BYTES: [0]; [1, 1]; [2, 1, 2]; [3, 0, 0, 1]; [4]; [5]
example : [RV.variant 0 [], .variant 1 [.nat 1], .variant 2 [.nat 1, .nat 2],
      .variant 3 [.list [.int 0, .int 0], .bool true], .variant 4 [], .variant 5 []].map
    (fun v => (callTree en v).map (fun c => enc c.erase)) =
    [some [0], some [1, 1], some [2, 1, 2], some [3, 0, 0, 1], some [4], some [5]] := by
  decide +kernel
example : callTree en (.variant 6 []) = none := by decide +kernel     -- no such variant
example : callTree en (.variant 1 []) = none := by decide +kernel     -- wrong field count

-- CALLS: struct[Gen,2](a=u8(1), b=some(newtype_struct[NT](u16(2))));  BYTES: [1, 1, 2]
example : callTree gen (.list [.nat 1, .some (.list [.nat 2])]) =
    some (.struct (ascii "Gen") [ascii "a", ascii "b"]
      [.u .w8 1, .some (.newtypeStruct (ascii "NT") (.u .w16 2))]) := by rfl
example : (callTree gen (.list [.nat 1, .some (.list [.nat 2])])).map
    (fun c => (conforms c (schemaOf true gen), enc c.erase)) = some (true, [1, 1, 2]) := by
  decide +kernel
-- CALLS: struct[Lt,2](s=str("a"), b=seq[Some(1)](u8(1)));  BYTES: [1, 97, 1, 1]
example : (callTree lt (.list [.text [97], .list [.nat 1]])).map
    (fun c => (conforms c (schemaOf true lt), enc c.erase)) = some (true, [1, 97, 1, 1]) := by
  decide +kernel

-- `Vec<Option<u16>>`: SCHEMA Seq(Option(U16)); CALLS seq[Some(2)](some(u16(1)), none);
--   BYTES [2, 1, 1, 0]
example : schemaOf true (.vec (.option (.uint .w16))) = .seq (.option .u16) := by decide +kernel
example : callTree (.vec (.option (.uint .w16))) (.list [.some (.nat 1), .none]) =
    some (.seq [.some (.u .w16 1), .none]) := by rfl
example : (callTree (.vec (.option (.uint .w16))) (.list [.some (.nat 1), .none])).map
    (fun c => (conforms c (.seq (.option .u16)), enc c.erase)) = some (true, [2, 1, 1, 0]) := by
  decide +kernel
-- `[u8; 3]`: SCHEMA Tuple([U8, U8, U8]); CALLS tuple[3](u8(1), u8(2), u8(3)); BYTES [1, 2, 3]
example : schemaOf true (.array (.uint .w8) 3) = .tuple [.u8, .u8, .u8] := by decide +kernel
example : (callTree (.array (.uint .w8) 3) (.list [.nat 1, .nat 2, .nat 3])).map
    (fun c => (conforms c (.tuple [.u8, .u8, .u8]), enc c.erase)) = some (true, [1, 2, 3]) := by
  decide +kernel
example : callTree (.array (.uint .w8) 3) (.list [.nat 1, .nat 2]) = none := by decide +kernel
-- `[u8; 0]`: SCHEMA Tuple([]); CALLS tuple[0](); BYTES []
example : (callTree (.array (.uint .w8) 0) (.list [])).map
    (fun c => (c, conforms c (schemaOf true (.array (.uint .w8) 0)))) = some (.tuple [], true) := by
  rfl
-- `(u8,)`: SCHEMA Tuple([U8]); CALLS tuple[1](u8(1)); BYTES [1]
example : schemaOf true (.tuple [.uint .w8]) = .tuple [.u8] := by decide +kernel
example : callTree (.tuple [.uint .w8]) (.list [.nat 1]) = some (.tuple [.u .w8 1]) := by rfl
example : conforms (.tuple [.u .w8 1]) (.tuple [.u8]) = true := by decide +kernel
-- `Result<u8, i8>`: SCHEMA Enum { name: "Result<T, E>", [Ok: Newtype(U8), Err: Newtype(I8)] };
--   CALLS newtype_variant[Result,1,Err](i8(-1)); BYTES [1, 255]   (type names differ: not compared)
example : (callTree (.result (.uint .w8) (.sint .w8)) (.variant 1 [.int (-1)])).map
    (fun c => (c, conforms c (schemaOf true (.result (.uint .w8) (.sint .w8))), enc c.erase)) =
    some (.newtypeVariant (ascii "Result") 1 (ascii "Err") (.i .w8 (-1)), true, [1, 255]) := by
  rfl
-- `Range<u8>`: SCHEMA Struct { name: "Range<T>", Struct([start: U8, end: U8]) };
--   CALLS struct[Range,2](start=u8(1), end=u8(3)); BYTES [1, 3]
example : (callTree (.range (.uint .w8)) (.list [.nat 1, .nat 3])).map
    (fun c => (c, conforms c (schemaOf true (.range (.uint .w8))), enc c.erase)) =
    some (.struct (ascii "Range") [ascii "start", ascii "end"] [.u .w8 1, .u .w8 3], true,
      [1, 3]) := by rfl
-- `RangeTo<u8>`: CALLS struct[RangeTo,1](end=u8(3))
example : (callTree (.rangeTo (.uint .w8)) (.list [.nat 3])).map
    (fun c => (c, conforms c (schemaOf true (.rangeTo (.uint .w8))))) =
    some (.struct (ascii "RangeTo") [ascii "end"] [.u .w8 3], true) := by rfl
-- `HashMap<(u8,u8), bool>`: SCHEMA Map { key: Tuple([U8, U8]), val: Bool };
--   CALLS map[Some(1)](k:tuple[2](u8(1), u8(2)), v:bool(true)); BYTES [1, 1, 2, 1]
example : (callTree (.hashMap (.tuple [.uint .w8, .uint .w8]) .bool)
      (.list [.list [.nat 1, .nat 2], .bool true])).map
    (fun c => (conforms c (.map (.tuple [.u8, .u8]) .bool), enc c.erase)) =
    some (true, [1, 1, 2, 1]) := by decide +kernel
-- `Uuid`: SCHEMA ByteArray; CALLS bytes([7; 16]); BYTES [16, 7 × 16]
example : (callTree .uuid (.text (List.replicate 16 7))).map
    (fun c => (conforms c (schemaOf true .uuid), enc c.erase)) =
    some (true, 16 :: List.replicate 16 7) := by decide +kernel
-- `SMatrix<u8, 2, 3>::new(1,2,3,4,5,6)`: SCHEMA Tuple([U8; 6]);
--   CALLS tuple[6](u8(1), u8(4), u8(2), u8(5), u8(3), u8(6)); BYTES [1, 4, 2, 5, 3, 6]
example : (callTree (.matrix (.uint .w8) 2 3)
      (.list [.nat 1, .nat 4, .nat 2, .nat 5, .nat 3, .nat 6])).map
    (fun c => (conforms c (schemaOf true (.matrix (.uint .w8) 2 3)), enc c.erase)) =
    some (true, [1, 4, 2, 5, 3, 6]) := by decide +kernel
-- `Key`: SCHEMA Struct { name: "Key", data: Newtype(Tuple([U8; 8])) };
--   CALLS newtype_struct[Key](tuple[8](u8 …)); BYTES the 8 bytes
example : (callTree .key (.text [142, 119, 141, 181, 7, 11, 241, 8])).map
    (fun c => (conforms c (schemaOf true .key), enc c.erase)) =
    some (true, [142, 119, 141, 181, 7, 11, 241, 8]) := by decide +kernel
-- `DateTime<Utc>`: SCHEMA String; CALLS collect_str("1970-01-01T00:00:00Z"); BYTES [20, …]
example : (callTree .dateTime (.text (ascii "1970-01-01T00:00:00Z"))).map
    (fun c => (conforms c .string, (enc c.erase).length)) = some (true, 21) := by decide +kernel
-- `NonZeroU8`: SCHEMA U8; CALLS u8(3); and 0 is not a value
example : callTree (.nonZeroU .w8) (.nat 3) = some (.u .w8 3) := by rfl
example : callTree (.nonZeroU .w8) (.nat 0) = none := by decide +kernel
-- `PathBuf`: SCHEMA String; CALLS str("/a/b"); a non-UTF-8 path is a serialisation ERROR
example : callTree .pathBuf (.text (ascii "/a/b")) = some (.str (ascii "/a/b")) := by rfl
example : callTree .pathBuf (.text [0xff, 0x41]) = none := by decide +kernel
-- `<Point as Schema>::SCHEMA` as a VALUE of type `DataModelType`: SCHEMA Schema;
--   CALLS struct_variant[DataModelType,23,Struct,2](name=str("Point"),
--     data=newtype_variant[Data,3,Struct](seq[Some(2)](
--       struct[NamedField,2](name=str("x"), ty=unit_variant[DataModelType,4,I32]), …)));
--   BYTES [23, 5, 80, 111, 105, 110, 116, 3, 2, 1, 120, 4, 1, 121, 4]
example : callTree .dataModelType (.schema (schemaOf true point)) =
    some (.structVariant (ascii "DataModelType") 23 (ascii "Struct") [ascii "name", ascii "data"]
      [.str (ascii "Point"),
       .newtypeVariant (ascii "Data") 3 (ascii "Struct")
        (.seq [.struct (ascii "NamedField") [ascii "name", ascii "ty"]
                 [.str (ascii "x"), .unitVariant (ascii "DataModelType") 4 (ascii "I32")],
               .struct (ascii "NamedField") [ascii "name", ascii "ty"]
                 [.str (ascii "y"), .unitVariant (ascii "DataModelType") 4 (ascii "I32")]])]) := by
  rfl
example : (callTree .dataModelType (.schema (schemaOf true point))).map
    (fun c => (conforms c .schema, enc c.erase)) =
    some (true, [23, 5, 80, 111, 105, 110, 116, 3, 2, 1, 120, 4, 1, 121, 4]) := by decide +kernel
example : (callTree .ownedDataModelType (.schema (schemaOf true en))).map (conforms · .schema)
    = some true := by decide +kernel
example : schemaRead .schema [23, 5, 80, 111, 105, 110, 116, 3, 2, 1, 120, 4, 1, 121, 4, 99] =
    .ok (serOwned (schemaOf true point), [99]) := by rfl

private def enD : CT :=
  .structVariant (ascii "En") 3 (ascii "D") [ascii "p", ascii "q"]
    [.struct (ascii "Point") [ascii "x", ascii "y"] [.i .w32 0, .i .w32 0], .bool true]
example : schemaRead (schemaOf true en) (enc enD.erase ++ [5, 5]) = .ok (enD.erase, [5, 5]) :=
  schema_describes_serialize en (.variant 3 [.list [.int 0, .int 0], .bool true]) enD
    (by decide +kernel) (by rfl) [5, 5]
example : enc enD.erase = [3, 0, 0, 1] ∧ enD.erase =
    .structVariant 3 [.struct [.i .w32 0, .i .w32 0], .bool true] := ⟨by decide +kernel, by rfl⟩

private def pointS : Schema :=
  .struct (ascii "Point") (.struct [.mk (ascii "x") .i32, .mk (ascii "y") .i32])
example : conforms (.struct (ascii "Point") [ascii "y", ascii "x"] [.i .w32 1, .i .w32 2]) pointS
    = false := by decide +kernel
example : conforms (.struct (ascii "Point") [ascii "x"] [.i .w32 1]) pointS = false := by
  decide +kernel
example : conforms (.struct (ascii "Point") [ascii "x", ascii "y", ascii "z"]
    [.i .w32 1, .i .w32 2, .i .w32 3]) pointS = false := by decide +kernel
example : conforms (.struct (ascii "Point") [ascii "x", ascii "y"] [.u .w32 1, .i .w32 2]) pointS
    = false := by decide +kernel
example : conforms (.u .w32 1) .i32 = false := by decide +kernel
example : conforms (.i .w32 1) .u32 = false := by decide +kernel
example : conforms (.u .w16 1) .u32 = false := by decide +kernel
-- the TYPE name is not compared
example : conforms (.struct (ascii "Other") [ascii "x", ascii "y"] [.i .w32 1, .i .w32 2]) pointS
    = true := by decide +kernel
example : conforms (.newtypeVariant (ascii "En") 2 (ascii "B") (.u .w8 1)) (schemaOf true en)
    = false := by
  decide +kernel
example : conforms (.newtypeVariant (ascii "En") 1 (ascii "Bee") (.u .w8 1)) (schemaOf true en)
    = false := by decide +kernel
example : conforms (.tupleVariant (ascii "En") 1 (ascii "B") [.u .w8 1]) (schemaOf true en)
    = false := by
  decide +kernel
example : conforms (.unitVariant (ascii "En") 6 (ascii "G")) (schemaOf true en) = false := by
  decide +kernel
example : conforms (.tupleStruct (ascii "NT") [.u .w16 5]) (schemaOf true nt) = false := by
  decide +kernel
example : conforms (.newtypeStruct (ascii "NT") (.u .w16 5)) (schemaOf true nt) = true := by
  decide +kernel
example : conforms (.u .w16 5) (schemaOf true nt) = false := by decide +kernel
example : conforms (.u .w8 1) (.tuple [.u8]) = false := by decide +kernel
example : conforms (.tuple [.u .w8 1]) (.tuple [.u8]) = true := by decide +kernel
example : conforms (.seq [.u .w8 1, .u .w8 2]) (.tuple [.u8, .u8]) = false := by decide +kernel
example : conforms (.bytes [1, 2]) (.seq .u8) = false := by decide +kernel
example : conforms (.str [97]) .byteArray = false := by decide +kernel
example : conforms (.tuple [.u .w8 1, .u .w8 2]) (.tuple [.u8]) = false := by decide +kernel
example : conforms (.map [.u .w8 1]) (.map .u8 .bool) = false := by decide +kernel
example : conforms (.map [.u .w8 1, .u .w8 2]) (.map .u8 .bool) = false := by decide +kernel
example : conforms (.unitVariant (ascii "DataModelType") 4 (ascii "I64")) .schema = false := by
  decide +kernel
example : conforms (.unitVariant (ascii "DataModelType") 4 (ascii "I32")) .schema = true := by
  decide +kernel
example : conforms (.unitVariant (ascii "DataModelType") 26 (ascii "X")) .schema = false := by
  decide +kernel
example : conforms (.u .w8 4) .schema = false := by decide +kernel
-- usize / isize schemas describe 64-bit varints (no Rust type in `RTy` declares them)
example : conforms (.u .w64 5) .usize = true ∧ conforms (.i .w64 5) .isize = true ∧
    conforms (.u .w32 5) .usize = false := by decide +kernel
example : schemaRead pointS [2] = .error .unexpectedEnd := by rfl
example : schemaRead (schemaOf true en) [6] = .error .custom := by rfl
example : schemaRead (.option .bool) [2] = .error .badOption := by rfl
example : RTy.wf (.tuple (List.replicate 7 .bool)) = false ∧ RTy.wf (.tuple []) = false ∧
    RTy.wf (.array .bool 33) = false ∧ RTy.wf (.array .bool 32) = true := by decide +kernel

end Examples

end Postcard
