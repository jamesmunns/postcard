import Postcard.Lemmas.SchemaFmt
/-
  Property C19 — "Schema inspection helpers are total and faithful for every
  schema".

  Model: Postcard/Model/SchemaFmt.lean (`fmtDmt`, `toPseudocode`,
  `discoverTys`, `discoverSet`) mirroring schema/fmt.rs and schema/owned.rs.
  `discoverTys true` is the tree as found (panics on usize/isize/schema),
  `discoverTys false` the repaired code.
-/
namespace Postcard

/-- The renderer is a total function: every schema, under either flag, has a
rendering (there is no error outcome in its type; the model function is
defined by structural recursion, which Lean checked to terminate). -/
theorem fmt_total (topLevel : Bool) (s : Schema) : ∃ out : List Byte, fmtDmt topLevel s = out :=
  ⟨_, rfl⟩

/-- `is_prim` is total likewise. -/
theorem isPrim_total (s : Schema) : ∃ b : Bool, isPrim s = b := ⟨_, rfl⟩

theorem discover_eq_subterms (s : Schema) : discoverTys false s = .ok (subterms s) :=
  discoverTys_eq false s

/-- On the repaired code `discover_tys` never panics (nor fails otherwise). -/
theorem discover_total (s : Schema) : ∃ l, discoverTys false s = .ok l :=
  ⟨_, discover_eq_subterms s⟩

theorem hasPanicLeaf_iff (s : Schema) :
    hasPanicLeaf s = true ↔
      ∃ x, Subterm x s ∧ (x = .usize ∨ x = .isize ∨ x = .schema) := by
  simp only [hasPanicLeaf_eq, List.any_eq_true, mem_subterms, isPanicKind_iff]

/-- The tree as found: the walk panics exactly on the schemas that contain a
usize/isize/schema node (all nested nodes are reached by the walk). -/
theorem discover_panics_iff (s : Schema) :
    discoverTys true s = .error .panic ↔ hasPanicLeaf s = true := by
  rw [discoverTys_eq, walkOutcome_true]
  cases hasPanicLeaf s <;> simp

theorem discover_panics_iff' (s : Schema) :
    discoverTys true s = .error .panic ↔
      ∃ x, Subterm x s ∧ (x = .usize ∨ x = .isize ∨ x = .schema) :=
  (discover_panics_iff s).trans (hasPanicLeaf_iff s)

theorem discover_unrepaired_ok (s : Schema) (h : hasPanicLeaf s = false) :
    discoverTys true s = discoverTys false s := by
  rw [discoverTys_eq, discoverTys_eq, h, walkOutcome_false, walkOutcome_false]

theorem discover_unrepaired_cases (s : Schema) :
    discoverTys true s = .error .panic ∨ discoverTys true s = .ok (subterms s) := by
  rw [discoverTys_eq, walkOutcome_true]
  cases hasPanicLeaf s
  · exact .inr rfl
  · exact .inl rfl

/-- The collected types are exactly the schema itself and every schema nested
inside it. -/
theorem discover_exact (s : Schema) :
    ∃ l, discoverTys false s = .ok l ∧ ∀ x, x ∈ l ↔ Subterm x s :=
  ⟨subterms s, discover_eq_subterms s, fun _ => mem_subterms⟩

/-- The same for the duplicate-free set `all_used_types` returns. -/
theorem discoverSet_exact (s : Schema) :
    ∃ l, discoverSet false s = .ok l ∧ l.Nodup ∧ ∀ x, x ∈ l ↔ Subterm x s :=
  ⟨(subterms s).eraseDups, by simp [discoverSet, discover_eq_subterms, andThen],
    nodup_eraseDups _, fun _ => List.mem_eraseDups.trans mem_subterms⟩

theorem discoverSet_total (s : Schema) : ∃ l, discoverSet false s = .ok l :=
  let ⟨l, h, _⟩ := discoverSet_exact s; ⟨l, h⟩

theorem discover_self (s : Schema) :
    ∃ l, discoverTys false s = .ok l ∧ s ∈ l :=
  ⟨subterms s, discover_eq_subterms s, self_mem_subterms s⟩

theorem render_mentions_struct_name (name : Name) (data : SData) :
    name <:+: toPseudocode (.struct name data) ∧
    (ascii "struct " ++ name) <+: toPseudocode (.struct name data) := by
  simp only [toPseudocode, fmtDmt, if_true]
  exact ⟨List.infix_append _ _ _, List.prefix_append _ _⟩

theorem render_mentions_struct_fields (name : Name) (fields : List SField)
    (fn : Name) (ty : Schema) (h : SField.mk fn ty ∈ fields) :
    fn <:+: toPseudocode (.struct name (.struct fields)) ∧
    (fn ++ ascii ": " ++ fmtDmt false ty) <:+: toPseudocode (.struct name (.struct fields)) := by
  have hd : fmtData (.struct fields) <:+: toPseudocode (.struct name (.struct fields)) :=
    (List.suffix_append _ _).isInfix
  exact ⟨(fieldName_infix_fmtData h).trans hd, (field_infix_fmtData h).trans hd⟩

theorem render_mentions_enum_name (name : Name) (variants : List SVariant) :
    name <:+: toPseudocode (.enum name variants) ∧
    (ascii "enum " ++ name) <+: toPseudocode (.enum name variants) := by
  simp only [toPseudocode, fmtDmt, if_true, List.append_assoc]
  exact ⟨List.infix_append' .., List.prefix_append ..⟩

theorem render_mentions_enum_variants (name : Name) (variants : List SVariant)
    (vn : Name) (d : SData) (h : SVariant.mk vn d ∈ variants) :
    vn <:+: toPseudocode (.enum name variants) ∧
    (vn ++ fmtData d) <:+: toPseudocode (.enum name variants) := by
  have h2 : (vn ++ fmtData d) <:+: toPseudocode (.enum name variants) :=
    (variant_infix_variants h).trans (fmtVariants_infix_enum name variants)
  exact ⟨List.IsInfix.trans (List.prefix_append vn _).isInfix h2, h2⟩

theorem render_mentions_enum_variant_fields (name : Name) (variants : List SVariant)
    (vn : Name) (fields : List SField) (hv : SVariant.mk vn (.struct fields) ∈ variants)
    (fn : Name) (ty : Schema) (hf : SField.mk fn ty ∈ fields) :
    fn <:+: toPseudocode (.enum name variants) :=
  (fieldName_infix_fmtData hf).trans <|
    (List.suffix_append vn _).isInfix.trans
      (render_mentions_enum_variants name variants vn _ hv).2

def fieldNames : List SField → List Name
  | [] => []
  | .mk n _ :: fs => n :: fieldNames fs

theorem mem_fieldNames {n : Name} : ∀ {fs : List SField},
    n ∈ fieldNames fs → ∃ t, SField.mk n t ∈ fs
  | .mk _ t :: _, .head _ => ⟨t, .head _⟩
  | .mk _ _ :: _, .tail _ h => let ⟨t, h'⟩ := mem_fieldNames h; ⟨t, .tail _ h'⟩

def declaredNames : Schema → List Name
  | .struct name (.struct fields) => name :: fieldNames fields
  | .struct name _ => [name]
  | .enum name variants =>
    name :: variants.flatMap fun
      | .mk vn (.struct fields) => vn :: fieldNames fields
      | .mk vn _ => [vn]
  | _ => []

/-- C19, rendering half, in one statement: every name a top-level struct or
enum declares occurs as a contiguous substring of its pseudocode. -/
theorem render_mentions (s : Schema) (n : Name) (h : n ∈ declaredNames s) :
    n <:+: toPseudocode s := by
  revert h
  fun_cases declaredNames s
  all_goals intro h
  · -- `.struct name (.struct fields)`
    rcases List.mem_cons.1 h with rfl | h
    · exact (render_mentions_struct_name _ _).1
    · obtain ⟨t, ht⟩ := mem_fieldNames h
      exact (render_mentions_struct_fields _ _ n t ht).1
  · -- `.struct name _`
    cases List.mem_singleton.1 h
    exact (render_mentions_struct_name _ _).1
  · -- `.enum name variants`
    rcases List.mem_cons.1 h with rfl | h
    · exact (render_mentions_enum_name _ _).1
    · obtain ⟨⟨vn, d⟩, hv, hn⟩ := List.mem_flatMap.1 h
      cases d with
      | struct fields =>
        rcases List.mem_cons.1 hn with rfl | hn
        · exact (render_mentions_enum_variants _ _ _ _ hv).1
        · obtain ⟨t, ht⟩ := mem_fieldNames hn
          exact render_mentions_enum_variant_fields _ _ vn fields hv n t ht
      | _ =>
        cases List.mem_singleton.1 hn
        exact (render_mentions_enum_variants _ _ _ _ hv).1
  · nomatch h

/-- Nested (non-top-level) struct/enum render as just their name. -/
theorem render_nested_name (name : Name) :
    (∀ data, fmtDmt false (.struct name data) = name) ∧
    (∀ variants, fmtDmt false (.enum name variants) = name) :=
  ⟨fun _ => rfl, fun _ => rfl⟩

theorem render_tuple (first : Schema) (rest : List Schema) :
    fmtDmt false (.tuple (first :: rest)) =
      if ∀ v ∈ rest, v = first then
        ascii "[" ++ fmtDmt false first ++ ascii "; " ++ natDigits (rest.length + 1) ++ ascii "]"
      else ascii "(" ++ fmtDmt false first ++ fmtTail rest ++ ascii ")" := by
  have : ((first :: rest).all fun v => Schema.beq first v) = true ↔ ∀ v ∈ rest, v = first := by
    simp only [List.all_cons, Schema.beq_refl, Bool.true_and, List.all_eq_true, Schema.beq_iff]
    exact ⟨fun h v hv => (h v hv).symm, fun h v hv => (h v hv).symm⟩
  simp only [fmtDmt, List.length_cons, this]

section Examples

private def pt : Schema :=
  .struct (ascii "Pt") (.struct [.mk (ascii "x") .u8, .mk (ascii "y") (.tuple [.u16, .u16, .u16])])

private def ex : Schema :=
  .enum (ascii "E")
    [.mk (ascii "A") .unit, .mk (ascii "B") (.newtype pt),
     .mk (ascii "C") (.tuple [.u8, .string]),
     .mk (ascii "D") (.struct [.mk (ascii "f") (.map .u8 (.option .bool))])]

example : toPseudocode pt = ascii "struct Pt { x: u8, y: [u16; 3] }" := by decide +kernel
example : toPseudocode ex =
    ascii "enum E { A, B(Pt), C(u8, String), D { f: Map<u8, Option<bool>> } }" := by decide +kernel
example : toPseudocode (.tuple [.u8, .u16]) = ascii "(u8, u16)" := by decide +kernel
example : toPseudocode (.tuple []) = ascii "()" := by decide +kernel
example : toPseudocode (.seq (.tuple [pt, pt])) = ascii "[[Pt; 2]]" := by decide +kernel
example : toPseudocode (.struct (ascii "U") .unit) = ascii "struct U" := by decide +kernel
example : toPseudocode (.struct (ascii "N") (.newtype .byteArray)) = ascii "struct N([u8])" := by
  decide +kernel
-- degenerate payloads, as the real `to_pseudocode` prints them
example : toPseudocode (.struct (ascii "T0") (.tuple [])) = ascii "struct T0()" := by decide +kernel
example : toPseudocode (.struct (ascii "S0") (.struct [])) = ascii "struct S0 {  }" := by
  decide +kernel
example : toPseudocode (.enum (ascii "E0") []) = ascii "enum E0 {  }" := by decide +kernel
example : natDigits 120 = ascii "120" := by decide +kernel
example :
    declaredNames ex = [ascii "E", ascii "A", ascii "B", ascii "C", ascii "D", ascii "f"] := by
  decide +kernel
example : ascii "f" <:+: toPseudocode ex := render_mentions ex _ (by decide)

example : discoverTys false pt = .ok [pt, .u8, .tuple [.u16, .u16, .u16], .u16, .u16, .u16] := rfl
example : discoverSet false pt = .ok [pt, .u8, .tuple [.u16, .u16, .u16], .u16] := rfl
example : discoverTys false ex =
    .ok [ex, pt, .u8, .tuple [.u16, .u16, .u16], .u16, .u16, .u16, .u8, .string,
         .map .u8 (.option .bool), .u8, .option .bool, .bool] := rfl
example : discoverTys true .usize = .error .panic := rfl
example : discoverTys true (.struct (ascii "S") (.newtype (.option .schema))) = .error .panic := rfl
example : discoverTys false (.struct (ascii "S") (.newtype (.option .schema))) =
    .ok [.struct (ascii "S") (.newtype (.option .schema)), .option .schema, .schema] := rfl
example : discoverTys true pt = discoverTys false pt := rfl
example : hasPanicLeaf ex = false := by decide +kernel
example : isPrim (.map .u8 (.option .bool)) = true ∧ isPrim pt = false := by decide +kernel

end Examples

end Postcard
