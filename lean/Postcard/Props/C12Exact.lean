import Postcard.Model.MaxSizeExact
import Postcard.Lemmas.MaxSize
/-
  `encMax` (Model/MaxSizeExact.lean) is the exact maximum of the encoded length over the
  values of a `MaxSize` type, and the code's constant `maxSize` is an upper bound of it
  (equal for the tight kinds).

  Attainment (`encMax_attained`, `bound_iff_encMax_le`) needs more than `MTy.populated`:
  see `MTy.optionsPopulated` and `encMax_not_attained_option_empty_payload`.
-/
namespace Postcard

mutual
theorem enc_le_encMax (m : MTy) (v : Val) (hw : m.wf = true) (h : m.inhabits v = true) :
    (enc v).length ≤ encMax m :=
  match m with
  | .bool => by obtain ⟨b, rfl⟩ := inhabits_shape h; exact Nat.le_refl 1
  | .int _ _ | .usize | .isize | .nonZero _ _ | .nonZeroUsize | .nonZeroIsize => enc_int_le h
  | .f32 | .f64 => by
    obtain ⟨b, rfl, _⟩ := inhabits_shape h
    exact Nat.le_of_eq (leBytes_length _ b)
  | .char => by obtain ⟨c, rfl, _⟩ := inhabits_shape h; exact enc_char_le c
  | .unit | .phantom => by cases inhabits_shape h; exact Nat.le_refl 0
  | .option t => by
    obtain rfl | ⟨w, rfl, hv⟩ := inhabits_shape h
    · exact Nat.le_add_left 1 _
    · exact Nat.succ_le_succ (enc_le_encMax t w hw hv)
  | .result t e => by
    have ⟨hwt, hwe⟩ := Bool.and_eq_true_iff.1 hw
    obtain ⟨w, rfl, hv⟩ | ⟨w, rfl, hv⟩ := inhabits_shape h
    · exact enc_newtypeVariant_small (idx := 0) w (by decide) ▸ Nat.succ_le_succ
        (Nat.le_trans (enc_le_encMax t w hwt hv) (Nat.le_max_left _ _))
    · exact enc_newtypeVariant_small (idx := 1) w (by decide) ▸ Nat.succ_le_succ
        (Nat.le_trans (enc_le_encMax e w hwe hv) (Nat.le_max_right _ _))
  | .array t n => by
    obtain ⟨vs, rfl, hall, rfl⟩ := inhabits_shape h
    exact encList_length_le_mul (encMax t) vs
      fun x hx => enc_le_encMax t x (Bool.and_eq_true_iff.1 hw).1 (hall x hx)
  | .tuple ts => by
    obtain ⟨vs, rfl, hvs⟩ := inhabits_shape h
    exact le_list ts vs hw hvs
  | .range t | .rangeInclusive t => by
    obtain ⟨a, b, rfl, ha, hb⟩ := inhabits_shape h
    exact pair_le (enc_le_encMax t a hw ha) (enc_le_encMax t b hw hb)
  | .rangeFrom t | .rangeTo t => by
    obtain ⟨a, rfl, ha⟩ := inhabits_shape h
    exact (encList_singleton a ▸ enc_le_encMax t a hw ha : (encList [a]).length ≤ encMax t)
  | .ref t => enc_le_encMax t v hw h
  | .hvec t n => by
    have ⟨hwt, hn⟩ := Bool.and_eq_true_iff.1 hw
    obtain ⟨vs, rfl, hall, hlen⟩ := inhabits_shape h
    have h1 := encList_length_le_mul (encMax t) vs fun x hx => enc_le_encMax t x hwt (hall x hx)
    exact prefixed_le hlen (of_decide_eq_true hn) (Nat.le_trans h1 (Nat.mul_le_mul_left _ hlen))
  | .hstring n => by
    obtain ⟨s, rfl, _, hlen⟩ := inhabits_shape h
    exact prefixed_le hlen (of_decide_eq_true hw) hlen
  | .dstruct f => le_struct f v hw h
  | .denum fs => by
    have ⟨_, hwf⟩ := Bool.and_eq_true_iff.1 hw
    obtain ⟨idx, hi, hlt, hv⟩ := inhabits_denum.1 h
    exact le_enum fs idx v 0 hwf hv (by rw [hi, Nat.zero_add]) ((Nat.zero_add idx).symm ▸ hlt)
theorem le_list : (ts : List MTy) → (vs : List Val) → wfList ts = true →
    inhabitsList ts vs = true → (encList vs).length ≤ encMaxSum ts
  | [] => fun vs _ h => by cases inhabitsList_nil h; exact Nat.le_refl 0
  | t :: ts => fun vs hw h => by
    have ⟨hw1, hw2⟩ := Bool.and_eq_true_iff.1 hw
    obtain ⟨v, vs, rfl, hv, hvs⟩ := inhabitsList_cons h
    show (enc v ++ encList vs).length ≤ encMax t + encMaxSum ts
    rw [List.length_append]
    exact Nat.add_le_add (enc_le_encMax t v hw1 hv) (le_list ts vs hw2 hvs)
theorem le_struct : (f : DFields) → (v : Val) → DFields.wf f = true →
    DFields.inhabitsStruct f v = true → (enc v).length ≤ DFields.encMax f
  | .unit => fun v _ h => by cases inhabitsStruct_shape h; exact Nat.le_refl 0
  | .unnamed ts => fun v hw h => by
    obtain ⟨w, rfl, _, hv⟩ | ⟨vs, rfl, _, hv⟩ := inhabitsStruct_shape h
    · exact encList_singleton w ▸ le_list ts [w] hw hv
    · exact le_list ts vs hw hv
  | .named ts => fun v hw h => by
    obtain ⟨vs, rfl, hv⟩ := inhabitsStruct_shape h
    exact le_list ts vs hw hv
theorem le_variant : (f : DFields) → (v : Val) → DFields.wf f = true →
    DFields.inhabitsVariant f v = true →
    ∃ idx, v.variantIdx? = some idx ∧
      (enc v).length ≤ (encVarint 32 idx).length + DFields.encMax f
  | .unit => fun v _ h => by
    obtain ⟨idx, rfl⟩ := inhabitsVariant_shape h
    exact ⟨idx, rfl, Nat.le_refl _⟩
  | .unnamed ts => fun v hw h => by
    obtain ⟨idx, w, rfl, _, hv⟩ | ⟨idx, vs, rfl, _, hv⟩ := inhabitsVariant_shape h
    · exact ⟨idx, rfl, length_append_le (encList_singleton w ▸ le_list ts [w] hw hv)⟩
    · exact ⟨idx, rfl, length_append_le (le_list ts vs hw hv)⟩
  | .named ts => fun v hw h => by
    obtain ⟨idx, vs, rfl, hv⟩ := inhabitsVariant_shape h
    exact ⟨idx, rfl, length_append_le (le_list ts vs hw hv)⟩
-- `fs` are the variants from index `k0` of the declaration on, `v` is a value of the `k`-th of
-- them (index `k0 + k`)
theorem le_enum : (fs : List DFields) → (k : Nat) → (v : Val) → (k0 : Nat) →
    wfVariants fs = true → inhabitsEnum fs k v = true →
    v.variantIdx? = some (k0 + k) → k0 + k < 2 ^ 32 →
    (enc v).length ≤ enumEncMax k0 fs
  | [], _ => fun _ _ _ h _ _ => nomatch h
  | f :: fs, 0 => fun v k0 hw h hidx hlt => by
    obtain ⟨idx, hi, hb⟩ := le_variant f v (Bool.and_eq_true_iff.1 hw).1 h
    cases (hidx : v.variantIdx? = some k0).symm.trans hi
    exact Nat.le_trans (encVarint_length widthOk32 hlt ▸ hb) (Nat.le_max_left _ _)
  | f :: fs, k + 1 => fun v k0 hw h hidx hlt =>
    Nat.le_trans
      (le_enum fs k v (k0 + 1) (Bool.and_eq_true_iff.1 hw).2 h
        (Nat.add_right_comm .. ▸ hidx) (Nat.add_right_comm .. ▸ hlt))
      (Nat.le_max_right _ _)
end

/-- `encMax ≤ maxSize`, over the clauses of `encMax`: both sides are the same arithmetic of the
components except at derived enums. -/
theorem ems_all :
    (∀ m, encMax m ≤ maxSize m) ∧
    (∀ k0 fs D acc, (∀ k, k < k0 + fs.length → varintSize k ≤ D) →
      enumEncMax k0 fs ≤ D + maxVariants acc fs) ∧
    (∀ f, DFields.encMax f ≤ DFields.sum f) ∧
    (∀ ts, encMaxSum ts ≤ sumFrom 0 ts) := by
  apply encMax.mutual_induct
  case case25 => -- .denum vs: the derive sizes the discriminant from the COUNT, above every index
    exact fun vs ih => ih _ 0 fun _ hk => varintSize_le_discriminant (Nat.zero_add vs.length ▸ hk)
  case case32 => -- enumEncMax k (f :: fs)
    exact fun k f fs ihf ih D acc hD => Nat.max_le.2
      ⟨Nat.add_le_add (hD k (Nat.lt_add_of_pos_right (Nat.zero_lt_succ _)))
          (Nat.le_trans ihf (maxVariants_ge_head acc f fs)),
        ih D _ fun k' hk => hD k' (Nat.add_right_comm k 1 _ ▸ hk)⟩
  all_goals intros
  all_goals simp only [encMax, maxSize, encMaxSum, DFields.encMax, DFields.sum, enumEncMax,
    tupleSum_eq, sumFrom_cons, rmax_eq, Nat.add_le_add_iff_right, Nat.mul_le_mul_right, *]
  all_goals omega

theorem ems_list : (ts : List MTy) → encMaxSum ts ≤ sumFrom 0 ts :=
  ems_all.2.2.2

theorem ems_fields : (f : DFields) → DFields.encMax f ≤ DFields.sum f :=
  ems_all.2.2.1

theorem ems_enum : (fs : List DFields) → (k0 D acc : Nat) →
    (∀ k, k < k0 + fs.length → varintSize k ≤ D) →
    enumEncMax k0 fs ≤ D + maxVariants acc fs :=
  fun fs k0 => ems_all.2.1 k0 fs

theorem encMax_le_maxSize (m : MTy) (_hw : m.wf = true) : encMax m ≤ maxSize m :=
  ems_all.1 m

theorem encMax_eq_maxSize_of_tight (m : MTy) (ht : m.tight = true) (hw : m.wf = true) :
    encMax m = maxSize m :=
  have ⟨hv, hl⟩ := max_size_tight_witness m ht hw
  Nat.le_antisymm (encMax_le_maxSize m hw) (hl ▸ enc_le_encMax m _ hw hv)

mutual
/-- the EXTRA hypothesis of `encMax_attained`: the payload type of every `Option` that
a value has to fill is populated (and so on inside it).  `MTy.populated (.option t)` is
`true` for every `t` (there is `None`), but `encMax (.option t) = encMax t + 1` is only
reached by a `Some`. -/
def MTy.optionsPopulated : MTy → Bool
  | .option t => t.populated && t.optionsPopulated
  | .result t e => t.optionsPopulated && e.optionsPopulated
  | .array t n => decide (n = 0) || t.optionsPopulated
  | .tuple ts => optionsPopulatedList ts
  | .range t => t.optionsPopulated
  | .rangeInclusive t => t.optionsPopulated
  | .rangeFrom t => t.optionsPopulated
  | .rangeTo t => t.optionsPopulated
  | .ref t => t.optionsPopulated
  | .hvec t _ => t.optionsPopulated
  | .dstruct f => DFields.optionsPopulated f
  | .denum vs => optionsPopulatedVariants vs
  | _ => true
def optionsPopulatedList : List MTy → Bool
  | [] => true
  | t :: ts => t.optionsPopulated && optionsPopulatedList ts
def DFields.optionsPopulated : DFields → Bool
  | .unit => true
  | .unnamed ts => optionsPopulatedList ts
  | .named ts => optionsPopulatedList ts
def optionsPopulatedVariants : List DFields → Bool
  | [] => true
  | f :: fs => DFields.optionsPopulated f && optionsPopulatedVariants fs
end

mutual
/-- a value of type `m` whose encoding has `encMax m` bytes (every kind, incl. enums). -/
def exactWitness : MTy → Val
  | .bool => .bool true
  | .int s w => intWitness s w
  | .usize => intWitness false .w64
  | .isize => intWitness true .w64
  | .nonZero s w => intWitness s w
  | .nonZeroUsize => intWitness false .w64
  | .nonZeroIsize => intWitness true .w64
  | .f32 => .f32 0
  | .f64 => .f64 0
  | .char => .char 0x10000
  | .unit => .unit
  | .phantom => .unitStruct
  | .option t => .some (exactWitness t)
  | .result t e =>
    if encMax e ≤ encMax t then .newtypeVariant 0 (exactWitness t)
    else .newtypeVariant 1 (exactWitness e)
  | .array t n => .tuple (List.replicate n (exactWitness t))
  | .tuple ts => .tuple (exactWitnessList ts)
  | .range t => .struct [exactWitness t, exactWitness t]
  | .rangeInclusive t => .struct [exactWitness t, exactWitness t]
  | .rangeFrom t => .struct [exactWitness t]
  | .rangeTo t => .struct [exactWitness t]
  | .ref t => exactWitness t
  | .hvec t n => .seq (List.replicate n (exactWitness t))
  | .hstring n => .str (List.replicate n 0x41)
  | .dstruct f => DFields.exactStructWitness f
  | .denum vs => enumWitness 0 vs
def exactWitnessList : List MTy → List Val
  | [] => []
  | t :: ts => exactWitness t :: exactWitnessList ts
def DFields.exactStructWitness : DFields → Val
  | .unit => .unitStruct
  | .unnamed ts =>
    if ts.length = 1 then .newtypeStruct ((exactWitnessList ts).headD .unit)
    else .tupleStruct (exactWitnessList ts)
  | .named ts => .struct (exactWitnessList ts)
def DFields.exactVariantWitness (idx : Nat) : DFields → Val
  | .unit => .unitVariant idx
  | .unnamed ts =>
    if ts.length = 1 then .newtypeVariant idx ((exactWitnessList ts).headD .unit)
    else .tupleVariant idx (exactWitnessList ts)
  | .named ts => .structVariant idx (exactWitnessList ts)
/-- variants `k, k+1, …`: the (first) variant that realises `enumEncMax k`. -/
def enumWitness (k : Nat) : List DFields → Val
  | [] => .unit
  | f :: fs =>
    if enumEncMax (k + 1) fs ≤ varintSize k + DFields.encMax f
    then DFields.exactVariantWitness k f
    else enumWitness (k + 1) fs
end

mutual
theorem encMax_attained_witness (m : MTy) (hw : m.wf = true) (hp : m.populated = true)
    (hopt : m.optionsPopulated = true) :
    m.inhabits (exactWitness m) = true ∧ (enc (exactWitness m)).length = encMax m :=
  match m with
  | .bool | .unit | .phantom | .f32 | .f64 | .char => by decide
  | .int _ _ | .usize | .isize | .nonZero _ _ | .nonZeroUsize | .nonZeroIsize => intWitness_spec
  | .option t =>
    have ⟨hp', ho'⟩ := Bool.and_eq_true_iff.1 hopt
    have ⟨h1, h2⟩ := encMax_attained_witness t hw hp' ho'
    ⟨h1, congrArg (· + 1) h2⟩
  | .result t e =>
    have ⟨hwt, hwe⟩ := Bool.and_eq_true_iff.1 hw
    have ⟨hpt, hpe⟩ := Bool.and_eq_true_iff.1 hp
    have ⟨hot, hoe⟩ := Bool.and_eq_true_iff.1 hopt
    result_witness Nat.max_eq_left (fun h => Nat.max_eq_right (Nat.le_of_not_le h))
      (encMax_attained_witness t hwt hpt hot) (encMax_attained_witness e hwe hpe hoe)
  | .array t n =>
    match n with
    | 0 => ⟨rfl, rfl⟩
    -- `n + 1 ≠ 0`, so the `decide (n = 0) ||` escape of `populated` is closed
    | n + 1 => array_witness _ (encMax_attained_witness t (Bool.and_eq_true_iff.1 hw).1 hp hopt)
  | .tuple ts => at_list ts hw hp hopt
  | .range t | .rangeInclusive t => pair_witness (encMax_attained_witness t hw hp hopt)
  | .rangeFrom t | .rangeTo t => single_witness (encMax_attained_witness t hw hp hopt)
  | .ref t => encMax_attained_witness t hw hp hopt
  | .hvec t n =>
    have ⟨hwt, hn⟩ := Bool.and_eq_true_iff.1 hw
    hvec_witness (of_decide_eq_true hn) (encMax_attained_witness t hwt hp hopt)
  | .hstring n => hstring_witness (of_decide_eq_true hw)
  | .dstruct f => at_struct f hw hp hopt
  | .denum fs => by
    have ⟨hlen, hwf⟩ := Bool.and_eq_true_iff.1 hw
    have ⟨hne, hpf⟩ := Bool.and_eq_true_iff.1 hp
    have hne : fs ≠ [] := fun e => by rw [e] at hne; cases hne
    obtain ⟨k, g1, g2, g3, g4⟩ :=
      at_enum fs 0 hwf hpf hopt hne (Nat.zero_add _ ▸ Nat.le_of_lt (of_decide_eq_true hlen))
    rw [Nat.zero_add] at g2 g3
    exact ⟨inhabits_denum.2 ⟨k, g2, g3, g1⟩, g4⟩
theorem at_list : (ts : List MTy) → wfList ts = true → populatedList ts = true →
    optionsPopulatedList ts = true →
    inhabitsList ts (exactWitnessList ts) = true ∧
    (encList (exactWitnessList ts)).length = encMaxSum ts
  | [] => fun _ _ _ => ⟨rfl, rfl⟩
  | t :: ts => fun hw hp ho =>
    have ⟨hw1, hw2⟩ := Bool.and_eq_true_iff.1 hw
    have ⟨hp1, hp2⟩ := Bool.and_eq_true_iff.1 hp
    have ⟨ho1, ho2⟩ := Bool.and_eq_true_iff.1 ho
    cons_witness (encMax_attained_witness t hw1 hp1 ho1) (at_list ts hw2 hp2 ho2)
theorem at_struct : (f : DFields) → DFields.wf f = true → DFields.populated f = true →
    DFields.optionsPopulated f = true →
    DFields.inhabitsStruct f (DFields.exactStructWitness f) = true ∧
    (enc (DFields.exactStructWitness f)).length = DFields.encMax f
  | .unit => fun _ _ _ => ⟨rfl, rfl⟩
  | .unnamed [t] => fun hw hp ho =>
    have ⟨h1, h2⟩ := at_list [t] hw hp ho
    ⟨h1, (congrArg List.length (encList_singleton _)).symm.trans h2⟩
  | .unnamed [] | .unnamed (_ :: _ :: _) | .named _ => fun hw hp ho => at_list _ hw hp ho
theorem at_variant : (f : DFields) → (idx : Nat) → DFields.wf f = true →
    DFields.populated f = true → DFields.optionsPopulated f = true →
    DFields.inhabitsVariant f (DFields.exactVariantWitness idx f) = true ∧
    (DFields.exactVariantWitness idx f).variantIdx? = some idx ∧
    (enc (DFields.exactVariantWitness idx f)).length =
      (encVarint 32 idx).length + DFields.encMax f
  | .unit => fun _ _ _ _ => ⟨rfl, rfl, rfl⟩
  | .unnamed [t] => fun _ hw hp ho =>
    have ⟨h1, h2⟩ := at_list [t] hw hp ho
    ⟨h1, rfl, List.length_append.trans
      (congrArg (_ + ·) ((congrArg List.length (encList_singleton _)).symm.trans h2))⟩
  | .unnamed [] | .unnamed (_ :: _ :: _) | .named _ => fun _ hw hp ho =>
    have ⟨h1, h2⟩ := at_list _ hw hp ho
    ⟨h1, rfl, List.length_append.trans (congrArg (_ + ·) h2)⟩
-- as in `le_enum`, `fs` are the variants from index `k0` of the declaration on
theorem at_enum : (fs : List DFields) → (k0 : Nat) → wfVariants fs = true →
    populatedVariants fs = true → optionsPopulatedVariants fs = true → fs ≠ [] →
    k0 + fs.length ≤ 2 ^ 32 →
    ∃ k, inhabitsEnum fs k (enumWitness k0 fs) = true ∧
      (enumWitness k0 fs).variantIdx? = some (k0 + k) ∧ k0 + k < 2 ^ 32 ∧
      (enc (enumWitness k0 fs)).length = enumEncMax k0 fs
  | [] => fun _ _ _ _ hne _ => absurd rfl hne
  | f :: fs => fun k0 hw hp ho _ hlen => by
    have ⟨hw1, hw2⟩ := Bool.and_eq_true_iff.1 hw
    have ⟨hp1, hp2⟩ := Bool.and_eq_true_iff.1 hp
    have ⟨ho1, ho2⟩ := Bool.and_eq_true_iff.1 ho
    have hk0 : k0 < 2 ^ 32 := Nat.lt_of_lt_of_le (Nat.lt_add_of_pos_right (Nat.succ_pos _)) hlen
    obtain ⟨h1, h2, h3⟩ := at_variant f k0 hw1 hp1 ho1
    -- `enumWitness` takes this variant iff it realises the maximum
    by_cases hc : enumEncMax (k0 + 1) fs ≤ varintSize k0 + DFields.encMax f
    · rw [show enumWitness k0 (f :: fs) = DFields.exactVariantWitness k0 f from if_pos hc]
      exact ⟨0, h1, h2, hk0,
        h3.trans ((encVarint_length widthOk32 hk0).symm ▸ (Nat.max_eq_left hc).symm)⟩
    · rw [show enumWitness k0 (f :: fs) = enumWitness (k0 + 1) fs from if_neg hc]
      have hne : fs ≠ [] := fun e => by subst e; exact hc (Nat.zero_le _)
      obtain ⟨k, g1, g2, g3, g4⟩ := at_enum fs (k0 + 1) hw2 hp2 ho2 hne
        (by rw [Nat.add_assoc, Nat.add_comm 1]; exact hlen)
      exact ⟨k + 1, g1, Nat.add_right_comm k0 1 k ▸ g2, Nat.add_right_comm k0 1 k ▸ g3,
        g4.trans (Nat.max_eq_right (Nat.le_of_not_le hc)).symm⟩
end

theorem encMax_attained (m : MTy) (hw : m.wf = true) (hp : m.populated = true)
    (hopt : m.optionsPopulated = true) :
    ∃ v, m.inhabits v = true ∧ (enc v).length = encMax m :=
  ⟨exactWitness m, encMax_attained_witness m hw hp hopt⟩

theorem bound_of_encMax_le (m : MTy) (hw : m.wf = true) (N : Nat) (h : encMax m ≤ N) :
    ∀ v, m.inhabits v = true → (enc v).length ≤ N :=
  fun v hv => Nat.le_trans (enc_le_encMax m v hw hv) h

/-- C12 for one type, decided by comparing the real constant N with encMax:
N bounds every value's encoding  iff  encMax m ≤ N.  The direction
`encMax m ≤ N → N bounds every value` needs neither `hp` nor `hopt` (`bound_of_encMax_le`). -/
theorem bound_iff_encMax_le (m : MTy) (hw : m.wf = true) (hp : m.populated = true)
    (hopt : m.optionsPopulated = true) (N : Nat) :
    (∀ v, m.inhabits v = true → (enc v).length ≤ N) ↔ encMax m ≤ N :=
  ⟨fun h => have ⟨v, hv, hl⟩ := encMax_attained m hw hp hopt; hl ▸ h v hv,
    bound_of_encMax_le m hw N⟩

/-- `Option<(u32, Empty)>` with `enum Empty {}`: well-formed, `populated` (there is
`None`), `encMax = 6`, but `None` is the ONLY value and it takes one byte.  So
`encMax_attained` and `bound_iff_encMax_le` are false with `populated` alone. -/
theorem encMax_not_attained_option_empty_payload :
    (MTy.option (.tuple [.int false .w32, .denum []])).wf = true ∧
    (MTy.option (.tuple [.int false .w32, .denum []])).populated = true ∧
    (MTy.option (.tuple [.int false .w32, .denum []])).optionsPopulated = false ∧
    encMax (.option (.tuple [.int false .w32, .denum []])) = 6 ∧
    ∀ v, (MTy.option (.tuple [.int false .w32, .denum []])).inhabits v = true →
      (enc v).length = 1 := by
  refine ⟨by decide, by decide, by decide, by decide, ?_⟩
  intro v h
  obtain rfl | ⟨w, rfl, hw⟩ := inhabits_shape h
  · rfl
  · -- a `Some` would hold a pair whose second component is a value of the empty enum
    obtain ⟨vs, rfl, hvs⟩ := inhabits_shape hw
    obtain ⟨a, vs, rfl, _, hvs⟩ := inhabitsList_cons hvs
    obtain ⟨b, vs, rfl, hb, _⟩ := inhabitsList_cons hvs
    obtain ⟨idx, _, _, he⟩ := inhabits_denum.1 hb
    cases he

theorem listed_all :
    (∀ m : MTy, m.listed = true →
      m.tight = true ∧ m.populated = true ∧ m.optionsPopulated = true) ∧
    ∀ ts, listedList ts = true →
      tightList ts = true ∧ populatedList ts = true ∧ optionsPopulatedList ts = true := by
  apply MTy.listed.mutual_induct
  all_goals intros
  all_goals simp_all [MTy.listed, listedList, MTy.tight, tightList, MTy.populated, populatedList,
    MTy.optionsPopulated, optionsPopulatedList]

theorem listed_tight : (m : MTy) → m.listed = true → m.tight = true :=
  fun m h => (listed_all.1 m h).1

theorem listed_tightList : (ts : List MTy) → listedList ts = true → tightList ts = true :=
  fun ts h => (listed_all.2 ts h).1

theorem listed_populated : (m : MTy) → m.listed = true →
    m.populated = true ∧ m.optionsPopulated = true :=
  fun m h => (listed_all.1 m h).2

theorem listed_populatedList : (ts : List MTy) → listedList ts = true →
    populatedList ts = true ∧ optionsPopulatedList ts = true :=
  fun ts h => (listed_all.2 ts h).2

/-- **C12, as decided per type by the run-time check.**  For a well-formed type `m` and the real
constant `N = T::POSTCARD_MAX_SIZE`:
* `encMax m ≤ N` gives the bound for EVERY value (no further hypothesis);
* for the kinds the property lists as tight, `N = encMax m` means the bound is attained
  (the witness is `exactWitness m`). -/
theorem c12_decided_by_encMax (m : MTy) (hw : m.wf = true) (N : Nat) :
    (encMax m ≤ N → ∀ v, m.inhabits v = true → (enc v).length ≤ N) ∧
    (m.listed = true → N = encMax m →
      ∃ v, m.inhabits v = true ∧ (enc v).length = N) := by
  refine ⟨bound_of_encMax_le m hw N, fun hl hN => ?_⟩
  have ⟨hp, ho⟩ := listed_populated m hl
  exact hN ▸ encMax_attained m hw hp ho

/-- **C12 for the kinds the property calls tight, with no side condition**: a constant `N` is
"an upper bound that some value attains" exactly when `N = encMax m`. -/
theorem c12_listed_iff (m : MTy) (hw : m.wf = true) (hl : m.listed = true) (N : Nat) :
    ((∀ v, m.inhabits v = true → (enc v).length ≤ N) ∧
      (∃ v, m.inhabits v = true ∧ (enc v).length = N))
      ↔ N = encMax m := by
  have ⟨hp, ho⟩ := listed_populated m hl
  constructor
  · rintro ⟨hb, v, hv, hlen⟩
    exact Nat.le_antisymm (hlen ▸ enc_le_encMax m v hw hv)
      ((bound_iff_encMax_le m hw hp ho N).1 hb)
  · rintro rfl
    exact ⟨bound_of_encMax_le m hw _ (Nat.le_refl _), encMax_attained m hw hp ho⟩

section Examples
-- 128 unit variants: the longest index written is 127 (one byte); the derive's constant is 2
example : encMax (.denum (List.replicate 128 .unit)) = 1
    ∧ maxSize (.denum (List.replicate 128 .unit)) = 2 := by decide +kernel
-- 129 unit variants: index 128 takes two bytes; both are 2
example : encMax (.denum (List.replicate 129 .unit)) = 2
    ∧ maxSize (.denum (List.replicate 129 .unit)) = 2 := by decide +kernel
-- the longest payload need not sit at the longest index: `enum { A(u16), B(u8) }`
example : encMax (.denum [.unnamed [.int false .w16], .unnamed [.int false .w8]]) = 4
    ∧ enc (exactWitness (.denum [.unnamed [.int false .w16], .unnamed [.int false .w8]]))
      = [0, 0xFF, 0xFF, 0x03] := by decide +kernel
example : (enc (exactWitness (.denum (List.replicate 128 .unit)))).length = 1 := by
  decide +kernel
end Examples

end Postcard
