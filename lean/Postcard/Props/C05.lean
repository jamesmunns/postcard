import Postcard.Model.Entry
import Postcard.Lemmas.Flavor
import Postcard.Props.C01
/-
  C05, plain framing: "Bounded-buffer serialisation: exact capacity threshold, never out of
  bounds".  The thresholds themselves, `to_slice_threshold` and `to_hvec_threshold`, are in
  Lemmas/Flavor beside `toSlice_eq`: Props/C01 uses them too.
-/
namespace Postcard

/-- everything fits ⇒ no call fails; the payload sits at `[cursor, cursor+len)`. -/
theorem slice_feed_fits (s : SliceSt) (cs : List Chunk) (hc : s.cursor ≤ s.mem.length)
    (h : s.cursor + (cs.flatMap Chunk.bytes).length ≤ s.mem.length) :
    Slice.feed s cs =
      (⟨writeAt s.mem s.cursor (cs.flatMap Chunk.bytes),
        s.cursor + (cs.flatMap Chunk.bytes).length⟩, none) := by
  obtain ⟨_, _, he⟩ := Slice.atomic.feed_eq cs s hc
  exact he.trans (if_pos h)

/-- something does not fit ⇒ `SerializeBufferFull`, and the final state is the initial one with a
prefix `p` of the payload written at `[cursor, cursor + p.length)`, entirely inside the buffer. -/
theorem slice_feed_overflow_prefix (s : SliceSt) (cs : List Chunk) (hc : s.cursor ≤ s.mem.length)
    (h : ¬ s.cursor + (cs.flatMap Chunk.bytes).length ≤ s.mem.length) :
    ∃ p, p <+: cs.flatMap Chunk.bytes ∧ s.cursor + p.length ≤ s.mem.length ∧
      Slice.feed s cs = (⟨writeAt s.mem s.cursor p, s.cursor + p.length⟩, some .bufferFull) := by
  obtain ⟨k, hk, he⟩ := Slice.atomic.feed_eq cs s hc
  exact ⟨_, chunkBytes_prefix (List.take_prefix k cs), ((hk h).2 k).2 (Nat.le_refl k),
    he.trans (if_neg h)⟩

/-- the same in observational form: the buffer keeps its
length, the cursor only moves forward and stays in bounds (no write outside the
buffer), cells outside `[s.cursor, s'.cursor)` are untouched and the cells
inside hold a prefix of the payload. -/
theorem slice_feed_overflow (s : SliceSt) (cs : List Chunk) (hc : s.cursor ≤ s.mem.length)
    (h : ¬ s.cursor + (cs.flatMap Chunk.bytes).length ≤ s.mem.length) :
    ∃ s', Slice.feed s cs = (s', some .bufferFull) ∧
      s'.mem.length = s.mem.length ∧ s.cursor ≤ s'.cursor ∧ s'.cursor ≤ s'.mem.length ∧
      (∀ i, i < s.cursor → s'.mem[i]? = s.mem[i]?) ∧
      (∀ i, s'.cursor ≤ i → s'.mem[i]? = s.mem[i]?) ∧
      (∀ j, s.cursor + j < s'.cursor → s'.mem[s.cursor + j]? = (cs.flatMap Chunk.bytes)[j]?) := by
  obtain ⟨p, ⟨t, ht⟩, hb, he⟩ := slice_feed_overflow_prefix s cs hc h
  refine ⟨_, he, writeAt_length hb, Nat.le_add_right _ _, ?_, fun i hi => writeAt_getElem?_lt hc hi,
    fun i hi => writeAt_getElem?_ge hc hi, fun j hj => ?_⟩
  · rw [writeAt_length hb]; exact hb
  · have hj' : j < p.length := Nat.lt_of_add_lt_add_left hj
    rw [writeAt_getElem?_mid hc hj', ← ht, List.getElem?_append_left hj']

/-- in-bounds invariant of a single call, success or failure. -/
theorem slice_step_in_bounds (s : SliceSt) (c : Chunk) (hc : s.cursor ≤ s.mem.length) :
    (Slice.step s c).1.mem.length = s.mem.length ∧
    (Slice.step s c).1.cursor ≤ (Slice.step s c).1.mem.length := by
  obtain ⟨h1, h2⟩ := Slice.atomic.step_inv s c hc
  exact ⟨h1, Nat.le_trans h2 (Nat.le_of_eq h1.symm)⟩

/-- memory length is never changed by `to_slice`. -/
theorem to_slice_mem_length (v : Val) (buf : List Byte) :
    (toSlice v buf).1.mem.length = buf.length ∧ (toSlice v buf).1.cursor ≤ buf.length := by
  obtain ⟨p, _, hb, _, he⟩ := toSlice_eq v buf
  rw [he]
  refine ⟨?_, hb⟩
  rw [List.length_append, List.length_drop]
  omega

/-- on success the caller's buffer is `enc v` followed by its untouched tail; on
failure it has the same length and is a prefix of `enc v` followed by the
untouched tail (so nothing outside the buffer, and nothing in the buffer beyond
the written prefix, was modified). -/
theorem prefix_and_tail (v : Val) (buf : List Byte) :
    ((enc v).length ≤ buf.length →
      (toSlice v buf).1.mem = enc v ++ buf.drop (enc v).length ∧
      (toSlice v buf).1.cursor = (enc v).length) ∧
    (¬ (enc v).length ≤ buf.length →
      (toSlice v buf).1.mem.length = buf.length ∧
      (toSlice v buf).1.cursor ≤ buf.length ∧
      ∃ p, p <+: enc v ∧ p.length = (toSlice v buf).1.cursor ∧
        (toSlice v buf).1.mem = p ++ buf.drop p.length) := by
  obtain ⟨hlen, hcur⟩ := to_slice_mem_length v buf
  obtain ⟨p, hp, _, hfull, he⟩ := toSlice_eq v buf
  rw [he] at hlen hcur ⊢
  exact ⟨fun h => by rw [hfull h]; exact ⟨rfl, rfl⟩, fun _ => ⟨hlen, hcur, p, hp, rfl, rfl⟩⟩

/-- the vector never exceeds its capacity and always holds a prefix of `enc v`. -/
theorem to_hvec_within_capacity (cap : Nat) (v : Val) :
    (toHVec cap v).1.cap = cap ∧ (toHVec cap v).1.vec.length ≤ cap ∧
    (toHVec cap v).1.vec <+: enc v := by
  obtain ⟨p, hp, hb, _, he⟩ := toHVec_eq cap v
  rw [he]
  exact ⟨rfl, hb, hp⟩

/-- `serialized_size` is exact. -/
theorem size_exact (v : Val) : serializedSize v = .ok (enc v).length := by
  simp only [serializedSize, serializeWith, SizeFl.feed_eq, chunkBytes_emit, Nat.zero_add]
  rfl

/-- `to_allocvec` / `to_stdvec` cannot fail. -/
theorem alloc_never_fails (v : Val) : toAllocVec v = .ok (enc v) := toAllocVec_eq v

/-- the threshold is `serialized_size`: `to_slice` succeeds iff the buffer is at
least that long. -/
theorem to_slice_ok_iff_size (v : Val) (buf : List Byte) :
    (∃ out, (toSlice v buf).2 = .ok out) ↔ ∃ n, serializedSize v = .ok n ∧ n ≤ buf.length := by
  rw [to_slice_threshold, size_exact]
  split
  · next h => exact ⟨fun _ => ⟨_, rfl, h⟩, fun _ => ⟨_, rfl⟩⟩
  · next h =>
    exact ⟨fun ⟨_, e⟩ => (nomatch e), fun ⟨_, hn, hle⟩ => absurd (by cases hn; exact hle) h⟩

-- the running example: 8 bytes; a 10-byte buffer keeps its last two cells, a
-- 5-byte buffer fails after four bytes (the 2-byte string payload is atomic).
example : (toSlice C01.exV (List.replicate 10 0xFF)).1.mem
    = [0xAC, 0x02, 1, 2, 0x68, 0x69, 1, 3, 0xFF, 0xFF] := by decide +kernel
example : (toSlice C01.exV (List.replicate 8 0xFF)).2
    = .ok [0xAC, 0x02, 1, 2, 0x68, 0x69, 1, 3] := by rfl
example : toSlice C01.exV (List.replicate 7 0xFF)
    = (⟨[0xAC, 0x02, 1, 2, 0x68, 0x69, 1], 7⟩, .error .bufferFull) := by rfl
example : toSlice C01.exV (List.replicate 5 0xFF)
    = (⟨[0xAC, 0x02, 1, 2, 0xFF], 4⟩, .error .bufferFull) := by rfl
example : toHVec 7 C01.exV = (⟨7, [0xAC, 0x02, 1, 2, 0x68, 0x69, 1]⟩, .error .bufferFull) := by rfl
example : toHVec 8 C01.exV = (⟨8, enc C01.exV⟩, .ok (enc C01.exV)) := by rfl
example : serializedSize C01.exV = .ok 8 := by rfl

/-- C20, a user flavour outermost.  For ANY flavour `F` and start state `s`: the calls issued to `F`
(`F.issued`) are a prefix of `emit v`, all of it if no call fails, and the run depends on `v` only
through them; a flavour that keeps the default `try_extend` is pushed `enc v` byte by byte; `Rec`
logs exactly `emit v`, `RecBytes` exactly `enc v`. -/
theorem user_flavor_sees_plain {σ ω : Type} (F : Flavor σ ω) (s : σ) (v : Val) :
    F.issued s (emit v) <+: emit v ∧
    (F.issued s (emit v)).flatMap Chunk.bytes <+: enc v ∧
    ((F.feed s (emit v)).2 = none →
      F.issued s (emit v) = emit v ∧ (F.issued s (emit v)).flatMap Chunk.bytes = enc v) ∧
    F.feed s (F.issued s (emit v)) = F.feed s (emit v) ∧
    (F.tryExtend = defaultExtend F.tryPush →
      F.feed s (emit v) = defaultExtend F.tryPush s (enc v)) ∧
    (Rec.feed [] (emit v)).1 = emit v ∧
    (emit v).flatMap Chunk.bytes = enc v ∧
    (RecBytes.feed [] (emit v)).1 = enc v := by
  obtain ⟨hp, hfeed, hall⟩ := F.issued_spec s (emit v)
  refine ⟨hp, ?_, ?_, hfeed, ?_, ?_, emit_flatten v, ?_⟩
  · have := chunkBytes_prefix hp
    rwa [chunkBytes_emit] at this
  · intro h
    rw [hall h]
    exact ⟨rfl, emit_flatten v⟩
  · intro hF
    rw [F.feed_defaultExtend hF, chunkBytes_emit]
  · rw [Rec.feed_eq]; rfl
  · rw [RecBytes.feed_eq, chunkBytes_emit]; rfl

example : (Rec.feed [] (emit C01.exV)).1 =
    [.extend [0xAC, 0x02], .push 1, .extend [2], .extend [0x68, 0x69], .extend [1],
      .extend [3]] := by
  rfl
example : (RecBytes.feed [] (emit C01.exV)).1 = [0xAC, 0x02, 1, 2, 0x68, 0x69, 1, 3] := by rfl
-- a failing flavour: `Slice` over 5 bytes is issued three successful calls and the failing one
example : Slice.issued ⟨List.replicate 5 0, 0⟩ (emit C01.exV)
    = [.extend [0xAC, 0x02], .push 1, .extend [2], .extend [0x68, 0x69]] := by rfl

end Postcard
