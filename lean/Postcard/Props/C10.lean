import Postcard.Lemmas.Crc
import Postcard.Lemmas.Storage
/-
  CRC framing (feature `use-crc`).  The framed output is the plain bytes followed by the
  little-endian checksum of exactly those bytes (`crc_frame`); such a frame is accepted and gives
  the value back (`crc_roundtrip`); whatever is accepted has that shape (`crc_sound`); a replaced
  checksum is rejected; a payload changed by a burst of at most `width` bits (generator with
  non-zero constant term) has another checksum (`burst_detected`) and is rejected provided the
  decoder still stops at the same byte of the changed frame (`payload_burst_rejected`, `hsame`).
-/
namespace Postcard

/-- C10 (framing): over the growable storage, for ANY sequence of
`try_push`/`try_extend` calls with flattened bytes `m`, the CRC flavour never
fails and `finalize` outputs `m` followed by the little-endian checksum of
exactly `m`. -/
theorem crc_frame {w : Nat} (alg : CrcAlg w) (nbytes : Nat) (cs : List Chunk) :
    ∃ s, (CrcSer alg nbytes AllocVec).feed ([], alg.init) cs = (s, none) ∧
      ((CrcSer alg nbytes AllocVec).finalize s).2
        = .ok (chunkBytesF cs ++ leBytes nbytes (crc alg (chunkBytesF cs)).toNat) := by
  obtain ⟨p, _, hp, he⟩ := crcSer_defaultExtend alg nbytes AllocVec (chunkBytesF cs) [] alg.init
  rw [AllocVec.defaultExtend_eq] at hp he
  refine ⟨_, by rw [Flavor.feed_defaultExtend _ rfl, chunkBytes_eq_chunkBytesF, he, hp rfl], ?_⟩
  rw [crcSer_finalize_def, AllocVec.defaultExtend_eq]
  rfl

/-- the same through `serialize_with_flavor` (`to_allocvec_uN`). -/
theorem crc_frame_serialize {w : Nat} (alg : CrcAlg w) (nbytes : Nat) (v : Val) :
    toAllocVecCrc alg nbytes v
      = .ok (chunkBytesF (emit v) ++ leBytes nbytes (crc alg (chunkBytesF (emit v))).toNat) := by
  obtain ⟨s, hf, hz⟩ := crc_frame alg nbytes (emit v)
  rcases hfin : (CrcSer alg nbytes AllocVec).finalize s with ⟨s', r⟩
  rw [hfin] at hz
  cases hz
  simp only [toAllocVecCrc, serializeWith, hf, hfin]

/-- C10 (framing, any inner flavour): for an inner flavour described by an
output log (`Slice`, `HVec`, `AllocVec`: `loggedSlice`, `loggedHVec`,
`loggedAllocVec`), whenever the calls and `finalize` succeed, the output is
the previous log ++ the bytes ++ their checksum. -/
theorem crc_frame_logged {σ : Type} {w : Nat} {F : Flavor σ (List Byte)} {inv : σ → Prop}
    {log : σ → List Byte} (hL : Logged F inv log) (alg : CrcAlg w) (nbytes : Nat)
    (s0 : σ) (hi : inv s0) (cs : List Chunk) (t t' : σ × BitVec w) (out : List Byte)
    (hfeed : (CrcSer alg nbytes F).feed (s0, alg.init) cs = (t, none))
    (hfin : (CrcSer alg nbytes F).finalize t = (t', .ok out)) :
    out = log s0 ++ chunkBytesF cs ++ leBytes nbytes (crc alg (chunkBytesF cs)).toNat := by
  -- the calls: byte-wise pushes of `chunkBytesF cs` into `F`, digested on the side
  obtain ⟨p, _, hp, he⟩ := crcSer_defaultExtend alg nbytes F (chunkBytesF cs) s0 alg.init
  rw [Flavor.feed_defaultExtend _ rfl, chunkBytes_eq_chunkBytesF, he] at hfeed
  have h2 : (defaultExtend F.tryPush s0 (chunkBytesF cs)).2 = none := congrArg Prod.snd hfeed
  obtain ⟨hi1, hl1⟩ := hL.extend_ok hi (Prod.ext rfl h2)
  rw [hp h2] at hfeed
  obtain ⟨rfl, _⟩ := Prod.mk.inj hfeed
  -- `finalize`: the checksum bytes likewise, then the inner `finalize`
  rw [crcSer_finalize_def] at hfin
  split at hfin
  · cases congrArg Prod.snd hfin
  · next s' hext =>
    obtain ⟨hi2, hl2⟩ := hL.extend_ok hi1 hext
    rw [hL.fin_ok s' _ out hi2 (Prod.ext rfl (show (F.finalize s').2 = .ok out from
      congrArg Prod.snd hfin)), hl2, hl1]
    rfl

/-- C10 (round trip): if `decF` consumes exactly `m` (whatever follows), and
the checksum fits in `nbytes` bytes, the framed message followed by anything is
accepted, yields the value and leaves exactly what followed. -/
theorem crc_roundtrip {α : Type} {w : Nat} (alg : CrcAlg w) (nbytes : Nat)
    (decF : List Byte → R (α × List Byte)) (m rest : List Byte) (v : α)
    (hfit : w ≤ nbytes * 8)
    (hdec : ∀ rest', decF (m ++ rest') = .ok (v, rest')) :
    takeFromBytesCrc alg nbytes decF (m ++ leBytes nbytes (crc alg m).toNat ++ rest)
      = .ok (v, rest) := by
  have hd := hdec (leBytes nbytes (crc alg m).toNat ++ rest)
  rw [← List.append_assoc] at hd
  have h := takeFromBytesCrc_eval alg hd
  rwa [leBytes_length, ofLeBytes_leBytes_bv nbytes _ hfit, if_pos rfl] at h

theorem crc_roundtrip_fromBytes {α : Type} {w : Nat} (alg : CrcAlg w) (nbytes : Nat)
    (decF : List Byte → R (α × List Byte)) (m rest : List Byte) (v : α)
    (hfit : w ≤ nbytes * 8)
    (hdec : ∀ rest', decF (m ++ rest') = .ok (v, rest')) :
    fromBytesCrc alg nbytes decF (m ++ leBytes nbytes (crc alg m).toNat ++ rest) = .ok v := by
  simp only [fromBytesCrc, crc_roundtrip alg nbytes decF m rest v hfit hdec]

/-- C10 (soundness): if the framed deserializer accepts `bs` and `decF` only
ever returns a suffix of its input as remainder, then `bs` is `p ++ c ++ r`
where `p` are the bytes `decF` consumed and `c` is exactly the `nbytes`-byte
little-endian checksum of `p`. -/
theorem crc_sound {α : Type} {w : Nat} (alg : CrcAlg w) (nbytes : Nat)
    (decF : List Byte → R (α × List Byte))
    (hsuffix : ∀ bs v r, decF bs = .ok (v, r) → ∃ p, bs = p ++ r)
    (bs r : List Byte) (v : α)
    (h : takeFromBytesCrc alg nbytes decF bs = .ok (v, r)) :
    ∃ p c, bs = p ++ c ++ r ∧ c.length = nbytes ∧
      c = leBytes nbytes (crc alg p).toNat ∧ decF bs = .ok (v, c ++ r) := by
  obtain ⟨c, hd, hc, hcrc⟩ := takeFromBytesCrc_ok h
  obtain ⟨p, hp⟩ := hsuffix _ _ _ hd
  rw [hp, take_length_sub_append] at hcrc
  refine ⟨p, c, by rw [hp, List.append_assoc], hc, ?_, hd⟩
  rw [← hcrc, ← hc, leBytes_ofLeBytes]

/-- C10 (checksum corruption): take an accepted frame `p ++ c ++ r` (`p` the
value bytes, `c` its checksum).  Replace the checksum by ANY other `c'` of the
same length.  Provided `decF` still decodes the value bytes the same way
(hypothesis `hindep`: its result on `p` does not depend on what follows —
true of `dec ty` whenever it succeeded on `p ++ …`), the corrupted frame is
rejected with `DeserializeBadCrc`. -/
theorem checksum_corruption_rejected {α : Type} {w : Nat} (alg : CrcAlg w) (nbytes : Nat)
    (decF : List Byte → R (α × List Byte)) (p c c' r : List Byte) (v : α)
    (hok : takeFromBytesCrc alg nbytes decF (p ++ c ++ r) = .ok (v, r))
    (hd : decF (p ++ c ++ r) = .ok (v, c ++ r))
    (hc : c.length = nbytes) (hlen : c'.length = c.length) (hne : c' ≠ c)
    (hindep : decF (p ++ c' ++ r) = .ok (v, c' ++ r)) :
    takeFromBytesCrc alg nbytes decF (p ++ c' ++ r) = .error .badCrc := by
  subst hc
  rw [← hlen, takeFromBytesCrc_eval alg hindep, if_neg]
  exact fun h' => hne (ofLeBytes_inj hlen (h'.trans (takeFromBytesCrc_ok_crc hd hok).symm))

/-- the same with the independence hypothesis in its natural form:
`decF` decodes `p` to `v` whatever follows. -/
theorem checksum_corruption_rejected' {α : Type} {w : Nat} (alg : CrcAlg w) (nbytes : Nat)
    (decF : List Byte → R (α × List Byte)) (p c c' r : List Byte) (v : α)
    (hindep : ∀ t, decF (p ++ t) = .ok (v, t))
    (hok : takeFromBytesCrc alg nbytes decF (p ++ c ++ r) = .ok (v, r))
    (hc : c.length = nbytes) (hlen : c'.length = c.length) (hne : c' ≠ c) :
    takeFromBytesCrc alg nbytes decF (p ++ c' ++ r) = .error .badCrc :=
  checksum_corruption_rejected alg nbytes decF p c c' r v hok
    (by rw [List.append_assoc]; exact hindep _) hc hlen hne
    (by rw [List.append_assoc]; exact hindep _)

/-! Burst detection: generator with non-zero constant term (`poly.getLsbD 0 = true`; this forces
`w > 0`).  Everything is at the level of the Rocksoft register, for every
`init`, `refin`, `refout`, `xorout`. -/

/-- C10 (burst detection, bit level): two equal-length bit strings (in the
order in which the algorithm consumes bits) whose difference is
`zeros ++ burst ++ zeros`, `burst` of at most `w` bits and not all zero, leave
different registers from any common start state, hence different CRCs. -/
theorem burst_detected_bits {w : Nat} (alg : CrcAlg w) (hodd : alg.poly.getLsbD 0 = true)
    (s : BitVec w) (x y : List Bool) (hxy : x.length = y.length)
    (a c : Nat) (burst : List Bool)
    (hdiff : bitsXor x y = List.replicate a false ++ burst ++ List.replicate c false)
    (hlen : burst.length ≤ w) (hne : true ∈ burst) :
    crcFinal alg (feedBits alg s x) ≠ crcFinal alg (feedBits alg s y) := by
  intro h
  -- by linearity the difference of the registers is the register of the difference, from 0
  have h1 := feedBits_xor alg x y s s hxy
  rw [crcFinal_inj alg h, BitVec.xor_self, BitVec.xor_self, hdiff, feedBits_append,
    feedBits_append, (feedBits_zeros_eq_zero alg hodd a).2 rfl] at h1
  -- the zeros in front and behind change nothing: the burst alone takes the register from 0 to 0,
  -- so its bits are leading bits of the zero register
  obtain ⟨i, hi⟩ := List.getElem?_of_mem hne
  have h2 := feedBits_eq_zero_short alg hodd burst 0#w hlen
    ((feedBits_zeros_eq_zero alg hodd c).1 h1.symm) i
  rw [hi, BitVec.getMsbD_zero] at h2
  cases h2

/-- C10 (burst detection, byte level): equal-length messages that differ by a
burst of at most `w` bits (`BurstDiff`: bits taken MSB-first per byte when
`refin = false`, LSB-first when `refin = true`) have different CRCs. -/
theorem burst_detected {w : Nat} (alg : CrcAlg w) (hodd : alg.poly.getLsbD 0 = true)
    (m m' : List Byte) (hlen : m.length = m'.length) (hb : BurstDiff alg m m') :
    crc alg m ≠ crc alg m' := by
  obtain ⟨a, c, burst, hdiff, hbl, hne⟩ := hb
  unfold crc
  rw [crcState_eq_feedBits, crcState_eq_feedBits]
  exact burst_detected_bits alg hodd alg.init _ _ (by rw [msgBits_length, msgBits_length, hlen])
    a c burst hdiff hbl hne

/-- corruption confined to `w / 8` consecutive bytes (4 bytes for a CRC-32)
changes the CRC. -/
theorem window_detected {w : Nat} (alg : CrcAlg w) (hodd : alg.poly.getLsbD 0 = true)
    (pre x y post : List Byte) (hxy : x.length = y.length) (hne : x ≠ y)
    (hfit : 8 * x.length ≤ w) :
    crc alg (pre ++ x ++ post) ≠ crc alg (pre ++ y ++ post) :=
  burst_detected alg hodd _ _ (by simp [hxy]) (window_burstDiff alg pre x y post hxy hne hfit)

theorem bitflip_detected {w : Nat} (alg : CrcAlg w) (hodd : alg.poly.getLsbD 0 = true)
    (pre post : List Byte) (b : Byte) (k : Nat) (hk : k < 8) :
    crc alg (pre ++ [b] ++ post) ≠ crc alg (pre ++ [flipBit b k] ++ post) :=
  burst_detected alg hodd _ _ (by simp)
    (bitflip_burstDiff alg (BitVec.lt_of_getLsbD hodd) pre post b k hk)

/-- C10 (payload corruption): take an accepted frame `p ++ c ++ r` (`p` the
bytes `decF` consumed, `c` the checksum).  Replace `p` by `p'` of the same
length that differs from it by a burst of at most `w` bits.  If `decF` still
stops at the same place on the corrupted frame (hypothesis `hsame`: "the
corruption leaves the decoded length unchanged"), the corrupted frame is not
accepted.  (If `decF` fails, the frame is rejected anyway; if it stops
elsewhere, the bytes compared with the digest are no longer `c` and nothing
can be said in general.) -/
theorem payload_burst_rejected {α : Type} {w : Nat} (alg : CrcAlg w)
    (hodd : alg.poly.getLsbD 0 = true) (nbytes : Nat)
    (decF : List Byte → R (α × List Byte)) (p p' c r : List Byte) (v : α)
    (hok : takeFromBytesCrc alg nbytes decF (p ++ c ++ r) = .ok (v, r))
    (hd : decF (p ++ c ++ r) = .ok (v, c ++ r))
    (hc : c.length = nbytes)
    (hlen : p'.length = p.length) (hburst : BurstDiff alg p p')
    (hsame : ∀ v' r', decF (p' ++ c ++ r) = .ok (v', r') → r' = c ++ r) :
    ∀ v' r', takeFromBytesCrc alg nbytes decF (p' ++ c ++ r) ≠ .ok (v', r') := by
  subst hc
  intro v' r' hacc
  obtain ⟨c2, hd2, _, _⟩ := takeFromBytesCrc_ok hacc
  rw [hsame _ _ hd2] at hd2
  -- both frames are accepted with the same checksum bytes `c`: `crc p = crc p'`
  exact burst_detected alg hodd p p' hlen.symm hburst (BitVec.eq_of_toNat_eq
    ((takeFromBytesCrc_ok_crc hd hok).symm.trans (takeFromBytesCrc_ok_crc hd2 hacc)))

theorem payload_bitflip_rejected {α : Type} {w : Nat} (alg : CrcAlg w)
    (hodd : alg.poly.getLsbD 0 = true) (nbytes : Nat)
    (decF : List Byte → R (α × List Byte)) (pre post c r : List Byte) (b : Byte) (k : Nat)
    (hk : k < 8) (v : α)
    (hok : takeFromBytesCrc alg nbytes decF (pre ++ [b] ++ post ++ c ++ r) = .ok (v, r))
    (hd : decF (pre ++ [b] ++ post ++ c ++ r) = .ok (v, c ++ r))
    (hc : c.length = nbytes)
    (hsame : ∀ v' r', decF (pre ++ [flipBit b k] ++ post ++ c ++ r) = .ok (v', r') →
      r' = c ++ r) :
    ∀ v' r', takeFromBytesCrc alg nbytes decF (pre ++ [flipBit b k] ++ post ++ c ++ r)
      ≠ .ok (v', r') :=
  payload_burst_rejected alg hodd nbytes decF _ _ c r v hok hd hc (by simp)
    (bitflip_burstDiff alg (BitVec.lt_of_getLsbD hodd) pre post b k hk) hsame

/-- the catalogue generators used by the harness all have constant term 1. -/
example : CRC_8_SMBUS.poly.getLsbD 0 = true ∧ CRC_8_MAXIM_DOW.poly.getLsbD 0 = true ∧
    CRC_16_IBM_SDLC.poly.getLsbD 0 = true ∧ CRC_16_XMODEM.poly.getLsbD 0 = true ∧
    CRC_32_ISO_HDLC.poly.getLsbD 0 = true ∧ CRC_32_BZIP2.poly.getLsbD 0 = true ∧
    CRC_64_ECMA_182.poly.getLsbD 0 = true ∧ CRC_64_XZ.poly.getLsbD 0 = true ∧
    CRC_82_DARC.poly.getLsbD 0 = true := by decide +kernel

/-- for the `decide` examples below; private, so that it cannot clash with other property
files. -/
private instance decEqR {α : Type} [DecidableEq α] : DecidableEq (R α)
  | .ok a, .ok b =>
    if h : a = b then isTrue (by rw [h]) else isFalse (by intro h'; cases h'; exact h rfl)
  | .error a, .error b =>
    if h : a = b then isTrue (by rw [h]) else isFalse (by intro h'; cases h'; exact h rfl)
  | .ok _, .error _ => isFalse (by intro h; cases h)
  | .error _, .ok _ => isFalse (by intro h; cases h)

def decByte : List Byte → R (Byte × List Byte)
  | [] => .error .unexpectedEnd
  | b :: r => .ok (b, r)

/-- framing: `to_allocvec_u32(&0x31u8, CRC_32_ISO_HDLC)`. -/
example : toAllocVecCrc CRC_32_ISO_HDLC 4 (.u .w8 0x31) = .ok [0x31, 0xb7, 0xef, 0xdc, 0x83] := by
  decide +kernel

example : takeFromBytesCrc CRC_32_ISO_HDLC 4 decByte
    ([0x31] ++ leBytes 4 (crc CRC_32_ISO_HDLC [0x31]).toNat ++ [0xaa]) = .ok (0x31, [0xaa]) :=
  crc_roundtrip CRC_32_ISO_HDLC 4 decByte [0x31] [0xaa] 0x31 (by decide) (fun _ => rfl)
example : [0x31] ++ leBytes 4 (crc CRC_32_ISO_HDLC [0x31]).toNat ++ [0xaa]
    = [0x31, 0xb7, 0xef, 0xdc, 0x83, 0xaa] := by decide +kernel
example : takeFromBytesCrc CRC_32_ISO_HDLC 4 decByte [0x31, 0xb7, 0xef, 0xdc, 0x83, 0xaa]
    = .ok (0x31, [0xaa]) := by decide +kernel

/-- `crc_sound`'s suffix hypothesis holds for `decByte`. -/
example : ∀ bs v r, decByte bs = .ok (v, r) → ∃ p, bs = p ++ r := by
  intro bs v r h
  cases bs with
  | nil => cases h
  | cons b t => cases h; exact ⟨[_], rfl⟩

example : takeFromBytesCrc CRC_32_ISO_HDLC 4 decByte [0x31, 0xb7, 0xef, 0xdc, 0x82, 0xaa]
    = .error .badCrc := by decide +kernel
example : takeFromBytesCrc CRC_32_ISO_HDLC 4 decByte [0x33, 0xb7, 0xef, 0xdc, 0x83, 0xaa]
    = .error .badCrc := by decide +kernel
example : takeFromBytesCrc CRC_32_ISO_HDLC 4 decByte [0x31, 0xb7, 0xef, 0xdc]
    = .error .unexpectedEnd := by decide +kernel

example : takeFromBytesCrc CRC_32_ISO_HDLC 4 decByte ([0x31] ++ [0, 0, 0, 0] ++ [0xaa])
    = .error .badCrc :=
  checksum_corruption_rejected' CRC_32_ISO_HDLC 4 decByte [0x31] [0xb7, 0xef, 0xdc, 0x83]
    [0, 0, 0, 0] [0xaa] 0x31 (fun _ => rfl) (by decide +kernel) rfl rfl (by decide)

example : ∀ v' r', takeFromBytesCrc CRC_32_ISO_HDLC 4 decByte
    ([] ++ [flipBit 0x31 1] ++ [] ++ [0xb7, 0xef, 0xdc, 0x83] ++ [0xaa]) ≠ .ok (v', r') :=
  payload_bitflip_rejected CRC_32_ISO_HDLC (by decide +kernel) 4 decByte [] []
    [0xb7, 0xef, 0xdc, 0x83] [0xaa] 0x31 1 (by decide) 0x31 (by decide +kernel) rfl rfl
    (fun _ _ h => by cases h; rfl)

/-- a burst longer than the width CAN go undetected, so the bound `≤ w` in
`burst_detected` is sharp for CRC-8/SMBUS: XOR-ing the generator itself
(9 bits: 0x107) into two adjacent bytes leaves the CRC unchanged. -/
example : crc CRC_8_SMBUS [0x31, 0x32] = crc CRC_8_SMBUS [0x31 ^^^ 0x01, 0x32 ^^^ 0x07] := by
  decide +kernel

/-- an even "generator" (zero constant term) does NOT detect all single-bit
errors, so the hypothesis `poly.getLsbD 0 = true` is needed. -/
example : crc ({ poly := 0x00, init := 0, xorout := 0, refin := false, refout := false } : CrcAlg 8)
      [0x00] =
    crc ({ poly := 0x00, init := 0, xorout := 0, refin := false, refout := false } : CrcAlg 8)
      [0x01] := by decide +kernel

end Postcard
