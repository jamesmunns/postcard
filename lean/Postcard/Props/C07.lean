import Postcard.Lemmas.Cobs
/-
  C07: "COBS decoding of arbitrary bytes is total and agrees with the COBS definition".
  `decodeRawSt`/`decodeRaw` check EVERY slice index of `decode_raw!(buff, buff)` (`.panic` when
  out of range; also when the loop fuel runs out); `fromBytesCobs` / `takeFromBytesCobs` have an
  explicit `.panic` for `&s[..sz]`, both `split_at_mut`s and the `usize` subtraction.  Reference:
  `Spec.cobsDecode`.

  `frameBody buf = buf.takeWhile (· ≠ 0)` is the frame body: the bytes strictly before the first
  zero (all of `buf` when it contains no zero).
-/
namespace Postcard
open Spec

/-- For EVERY buffer: the in-place decoder never panics (no slice index out of
range — invariant `dest_index ≤ source_index ≤ src_end ≤ len` — and the loop
terminates within `len + 1` iterations); on success
`dst_used ≤ src_used ≤ len`; and `from_bytes_cobs` / `take_from_bytes_cobs`
never panic (`&s[..sz]` and both `split_at_mut` indices are in range,
`src_used - dst_used` does not underflow) provided the inner `from_bytes` does
not. -/
theorem cobs_de_total (buf : List Byte) :
    decodeRaw buf ≠ .error .panic ∧
    (∀ buf' d s, decodeRaw buf = .ok (buf', d, s) →
      d ≤ s ∧ s ≤ buf.length ∧ buf'.length = buf.length) ∧
    (∀ {α : Type} (decF : List Byte → R α), (∀ l, decF l ≠ .error .panic) →
      (fromBytesCobs decF buf).1 ≠ .error .panic ∧
      (takeFromBytesCobs decF buf).1 ≠ .error .panic) := by
  obtain ⟨b1, hb, hl, _, ht⟩ := decodeRawSt_eq buf
  refine ⟨?_, ?_, ?_⟩
  · simp only [decodeRaw, hb]
    cases cobsDecode (frameBody buf) <;> simp
  · intro buf' d s hds
    simp only [decodeRaw, hb] at hds
    cases h : cobsDecode (frameBody buf) with
    | none => rw [h] at hds; cases hds
    | some p =>
      rw [h] at hds; cases hds
      exact ⟨(ht p h).1, frameBody_length_le buf, hl⟩
  · intro α decF hdec
    rw [fromBytesCobs_eq, takeFromBytesCobs_eq]
    cases cobsDecode (frameBody buf) with
    | none => simp
    | some p =>
      refine ⟨hdec p, ?_⟩
      have := hdec p
      cases hp : decF p with
      | error e => rw [hp] at this; simpa [Except.map, hp] using this
      | ok t => simp [Except.map, hp]

/-- `none` of the reference decoder on a zero-free body means exactly: some
code byte points past the end of the body. -/
theorem malformed_iff (f : List Byte) (hz : ∀ b ∈ f, b ≠ 0) :
    cobsDecode f = none ↔ CodeOverrun f := by
  induction f using blockInduction with
  | nil => exact ⟨fun h => (nomatch h), fun h => (nomatch h)⟩
  | block c rest ih =>
    have hih := ih (fun b hb => hz b (List.mem_cons_of_mem _ (List.mem_of_mem_drop hb)))
    rw [cobsDecode_cons, if_neg (hz c (by simp))]
    split
    · next hk => exact ⟨fun _ => .here hk, fun _ => rfl⟩
    · next hk =>
      constructor
      · intro h
        refine .later (by omega) (hih.mp ?_)
        split at h
        · assumption
        · cases h
      · intro h
        cases h with
        | here h' => omega
        | later _ h' => rw [hih.mpr h']

/-- Let `f` be the frame body of `buf`.  The crate decoder fails (with the
`Err(())` that postcard maps to `DeserializeBadEncoding`) exactly when the
reference decoder rejects `f`, i.e. exactly when some code byte of `f` points
past its end; otherwise it returns the reference payload `p` in the first
`p.length` bytes of the buffer, `dst_used = p.length`, `src_used = f.length`.
Hence `from_bytes_cobs` behaves as `from_bytes` on `p`, resp.
`DeserializeBadEncoding`. -/
theorem cobs_de_eq_spec (buf : List Byte) :
    let f := buf.takeWhile (· ≠ 0)
    (decodeRaw buf = .error .badEncoding ↔ cobsDecode f = none) ∧
    (decodeRaw buf = .error .badEncoding ↔ CodeOverrun f) ∧
    (∀ p, cobsDecode f = some p →
      ∃ buf', decodeRaw buf = .ok (buf', p.length, f.length) ∧ buf'.take p.length = p) ∧
    (∀ {α : Type} (decF : List Byte → R α),
      (fromBytesCobs decF buf).1 =
        match cobsDecode f with
        | none => .error .badEncoding
        | some p => decF p) := by
  intro f
  obtain ⟨b1, hb, _, _, ht⟩ := decodeRawSt_eq buf
  have hiff : decodeRaw buf = .error .badEncoding ↔ cobsDecode f = none := by
    simp only [decodeRaw, hb]
    cases cobsDecode (frameBody buf) <;> simp
  refine ⟨hiff, hiff.trans (malformed_iff f (frameBody_split buf).2.1), fun p hp => ?_,
    fun decF => fromBytesCobs_eq decF buf⟩
  rw [show cobsDecode (frameBody buf) = some p from hp] at hb
  exact ⟨b1, by simp only [decodeRaw, hb]; rfl, (ht p hp).2⟩

/-- `take_from_bytes_cobs`: same payload, and the returned remainder is
`buf.drop (f.length + 1)` — all bytes after the first zero; empty when the
buffer contains no zero. -/
theorem remainder_after_sentinel {α : Type} (decF : List Byte → R α) (buf : List Byte) :
    let f := buf.takeWhile (· ≠ 0)
    (takeFromBytesCobs decF buf).1 =
      match cobsDecode f with
      | none => .error .badEncoding
      | some p => (decF p).map (fun t => (t, buf.drop (f.length + 1))) :=
  takeFromBytesCobs_eq decF buf

/-- the remainder spelled out: with a zero at position `f.length` it is what
follows that zero; without any zero it is empty. -/
theorem remainder_cases (buf : List Byte) :
    let f := buf.takeWhile (· ≠ 0)
    (buf = f ∧ buf.drop (f.length + 1) = []) ∨
    (buf = f ++ 0 :: buf.drop (f.length + 1)) := by
  show (buf = frameBody buf ∧ buf.drop ((frameBody buf).length + 1) = []) ∨
    (buf = frameBody buf ++ 0 :: buf.drop ((frameBody buf).length + 1))
  obtain ⟨_, _, h3, h4⟩ := frameBody_split buf
  rcases h4 with h | ⟨r, h⟩
  · have := List.drop_eq_nil_iff.mp h
    rw [h, List.append_nil] at h3
    exact .inl ⟨h3, List.drop_eq_nil_iff.mpr (by omega)⟩
  · rw [← List.drop_drop, h]
    exact .inr (h ▸ h3)

/-- In-place writes are confined to the frame: whatever the outcome, the
buffer keeps its length and every byte at or after the frame's end (the first
zero, `src_used` on success) is untouched.  The second components of
`fromBytesCobs` / `takeFromBytesCobs` (the caller's buffer after the call) are
that same buffer. -/
theorem writes_confined (buf : List Byte) :
    (∀ buf' d s, decodeRaw buf = .ok (buf', d, s) →
      buf'.drop s = buf.drop s ∧ buf'.length = buf.length) ∧
    ((decodeRawSt buf).1.length = buf.length ∧
      (decodeRawSt buf).1.drop (buf.takeWhile (· ≠ 0)).length
        = buf.drop (buf.takeWhile (· ≠ 0)).length) ∧
    (∀ {α : Type} (decF : List Byte → R α),
      (fromBytesCobs decF buf).2 = (decodeRawSt buf).1 ∧
      (takeFromBytesCobs decF buf).2 = (decodeRawSt buf).1) := by
  obtain ⟨b1, hb, hl, hd, _⟩ := decodeRawSt_eq buf
  refine ⟨fun buf' d s hds => ?_, by rw [hb]; exact ⟨hl, hd⟩,
    fun decF => ⟨fromBytesCobs_snd decF buf, takeFromBytesCobs_snd decF buf⟩⟩
  simp only [decodeRaw, hb] at hds
  cases h : cobsDecode (frameBody buf) with
  | none => rw [h] at hds; cases hds
  | some p => rw [h] at hds; cases hds; exact ⟨hd, hl⟩

example : (decodeRaw [3, 0x11, 0, 2, 0x33]).toOption = none := by decide +kernel
example : (match decodeRaw [3, 0x11, 0, 2, 0x33] with
    | .error .badEncoding => true | _ => false) = true := by decide +kernel
example : CodeOverrun [3, 0x11] := .here (by decide)
example : (decodeRaw [0, 1, 2]).toOption = some ([0, 1, 2], 0, 0) := by decide +kernel
example : (decodeRaw []).toOption = some ([], 0, 0) := by decide +kernel
example : (decodeRaw [1, 1, 1, 0]).toOption = some ([0, 0, 1, 0], 2, 3) := by decide +kernel
example : (takeFromBytesCobs (fun l => (.ok l : R (List Byte))) [0, 1, 2]).1.toOption
    = some ([], [1, 2]) := by decide +kernel
example : (fromBytesCobs (fun l => (.ok l : R (List Byte)))
    [5, 0x11, 0x22, 2, 0x33, 0, 4]).1.toOption
    = some [0x11, 0x22, 2, 0x33] := by decide +kernel

end Postcard
