import Postcard.Lemmas.DeFlavor
import Postcard.Props.C01
import Postcard.Props.C04
/-
  C11 — "Reader/writer transports are equivalent to the slice path and never over-read", for the
  index-level `Slice` flavour `SliceDe`, the reader flavour `IOReader` (`fromIo`, `fromIoSeq`) and
  the writer flavour `WriteFl` (`toIo`) of Model/DeFlavor.lean.

  Partial reads / partial writes: `IOReader` / `WriteFlavor` call nothing but `read_exact` /
  `write_all` (+ `flush`) and inspect nothing but `Ok` / `Err`.  `read_exact(n)` delivers the next
  `n` bytes of the stream whatever the sizes of the underlying `read` calls; `write_all(bs)` hands
  over `bs` whatever the sizes of the underlying `write` calls.  So the theorems below, stated for
  one transition per `read_exact` / `write_all`, hold for EVERY way the reader delivers / the
  writer accepts the data in pieces (Props/C11Sched proves this for the std loops); the only
  schedule-dependent observable is WHERE a failure strikes, which is the parameter `fault` /
  `failAt` (an absolute byte index), universally quantified below.
-/
namespace Postcard

/-- C11 (index-level part of C04): from any state with
`cursor ≤ end ≤ mem.length` the run never dereferences outside the allocation
(the model's explicit `.panic` outcome), never changes `mem` / `end`, and the
cursor stays in `[cursor, end]`: every byte read lies in `[cursor, end)`.  The
result is that of `dec` on the sub-slice `mem[cursor..end]`. -/
theorem slice_reads_in_bounds (t : Ty) (s : SliceDeSt) (h1 : s.cursor ≤ s.end_)
    (h2 : s.end_ ≤ s.mem.length) :
    decG SliceDe t s ≠ .error .panic ∧
    (∀ e, decG SliceDe t s = .error e → dec t (s.mem.extract s.cursor s.end_) = .error e) ∧
    (∀ v s', decG SliceDe t s = .ok (v, s') →
      s'.mem = s.mem ∧ s'.end_ = s.end_ ∧ s.cursor ≤ s'.cursor ∧ s'.cursor ≤ s'.end_ ∧
      dec t (s.mem.extract s.cursor s.end_) = .ok (v, s.mem.extract s'.cursor s.end_)) := by
  have h := decG_agrees (SliceDe.sim s.mem s.end_ s.cursor) t s ⟨rfl, rfl, Nat.le_refl _, h1, h2⟩
  have hview : ∀ s' : SliceDeSt, s'.mem = s.mem → s'.end_ = s.end_ →
      s'.view = s.mem.extract s'.cursor s.end_ := fun s' hm he => by
    rw [← SliceDe.finalize_eq_view, SliceDe.finalize, hm, he]
  rw [hview s rfl rfl] at h
  have herr : ∀ e, decG SliceDe t s = .error e →
      dec t (s.mem.extract s.cursor s.end_) = .error e := fun _ => h.err_exact
  refine ⟨fun hp => dec_total _ _ (herr _ hp), herr, fun v s' hok => ?_⟩
  rw [hok] at h
  obtain ⟨hd, hm, he, hc0, hce, _⟩ := h
  exact ⟨hm, he, hc0, he ▸ hce, by rw [hd, hview s' hm he]⟩

/-- C11: `slice_reads_in_bounds` with `end = mem.length`, against `dec` on `mem.drop cursor`. -/
theorem decG_slice_eq_dec (t : Ty) (mem : List Byte) (cursor : Nat) (hc : cursor ≤ mem.length) :
    match decG SliceDe t ⟨mem, cursor, mem.length⟩ with
    | .ok (v, s') =>
        s'.mem = mem ∧ s'.end_ = mem.length ∧ cursor ≤ s'.cursor ∧ s'.cursor ≤ mem.length ∧
        dec t (mem.drop cursor) = .ok (v, mem.drop s'.cursor)
    | .error e => dec t (mem.drop cursor) = .error e := by
  obtain ⟨_, herr, hok⟩ := slice_reads_in_bounds t ⟨mem, cursor, mem.length⟩ hc (Nat.le_refl _)
  have hx : ∀ c, mem.extract c mem.length = mem.drop c := fun c => by
    rw [List.extract_eq_take_drop,
      List.take_of_length_le (by rw [List.length_drop]; exact Nat.le_refl _)]
  simp only [hx] at herr hok
  cases hr : decG SliceDe t ⟨mem, cursor, mem.length⟩ with
  | error e => exact herr e hr
  | ok x =>
    obtain ⟨hm, he, h1, h2, hd⟩ := hok x.1 x.2 hr
    exact ⟨hm, he, h1, he ▸ h2, hd⟩

/-- `take_from_bytes` through the pointer-level flavour = `take_from_bytes` of
Model/Entry.lean. -/
theorem takeFromBytesG_eq (t : Ty) (bs : List Byte) : takeFromBytesG t bs = takeFromBytes t bs := by
  have h := decG_agrees (SliceDe.sim bs bs.length 0) t _ (SliceDeSt.inv_new bs)
  rw [SliceDeSt.view_new] at h
  unfold takeFromBytesG takeFromBytes
  cases hr : decG SliceDe t (SliceDeSt.new bs) with
  | error e => exact (h.err_exact hr).symm
  | ok x => rw [hr] at h; rw [h.1, ← SliceDe.finalize_eq_view]

/-- the pre-allocation hint of the generic `SeqAccess` over `Slice` is the one
analysed in C04 (`hint_le_remaining`, `prealloc_bound`): remaining = `end - cursor`. -/
theorem slice_seq_hint (s : SliceDeSt) (len : Nat) :
    seqHintG SliceDe s len = seqSizeHint (s.end_ - s.cursor) len := rfl

/-- over a reader the flavour's `size_hint` is the remaining SCRATCH (not the
remaining input, which a reader cannot know): a claimed length is passed to
the visitor only if it does not exceed the scratch left; `cautious` (C04
`prealloc_le_cap`) still caps the reservation at 1 MiB. -/
theorem reader_seq_hint (st : IOReaderSt) (len : Nat) :
    seqHintG IOReader st len = if st.scratchLeft < len then none else some len := rfl

/-- what `reader_equiv` says about the slots. -/
theorem slots_disjoint (v : Val) {cap : Nat} (h : need v ≤ cap) :
    SlotsOk cap (mkSlots 0 (leaves v)) ∧ (mkSlots 0 (leaves v)).map (·.2) = leaves v ∧
    (leaves v).sum = need v :=
  ⟨mkSlots_ok (by rw [← need_eq_sum_leaves]; simpa using h), mkSlots_lengths _ _,
    (need_eq_sum_leaves v).symm⟩

/-- from any state whose stream starts with a message `msg` that slice decoding maps to `v`:
`from_io` succeeds exactly when the remaining scratch holds `need v` bytes and the reader does
not fault before the last byte of `msg`; otherwise `DeserializeUnexpectedEnd`. -/
theorem reader_step {t : Ty} {v : Val} {msg more : List Byte} {st : IOReaderSt}
    (hdec : dec t (msg ++ more) = .ok (v, more)) (hs : st.stream = msg ++ more) :
    fromIo t st =
      if need v ≤ st.scratchCap - st.scratchUsed ∧
          (msg.length = 0 ∨ faultOk st.fault (st.delivered + msg.length) = true) then
        .ok (v, { st with stream := more, delivered := st.delivered + msg.length,
                          scratchUsed := st.scratchUsed + need v,
                          slots := st.slots ++ mkSlots st.scratchUsed (leaves v) })
      else .error .unexpectedEnd := by
  have hp := permitted_of_dec hdec
  unfold fromIo
  rw [io_permitted hp st more hs]
  simp only [ioRes, IOReaderSt.fits, IOReaderSt.adv, ← need_eq_sum_leaves, hs, List.drop_left]

/-- C11: the message's bytes `msg` (followed by anything) on a reader, enough
scratch, no fault inside the message: `from_io` returns the value slice
decoding gives; the reader is left exactly at the end of the message
(`delivered = msg.length`, the stream is `more`: not one byte more was pulled);
`need v` bytes of scratch were used — the unused `cap - need v` are returned —
in the slots `mkSlots 0 (leaves v)`: one per borrowed leaf, contiguous from
offset 0 (see `slots_disjoint`). -/
theorem reader_equiv {t : Ty} {v : Val} {msg more : List Byte} {fault : Option Nat} {cap : Nat}
    (hdec : dec t (msg ++ more) = .ok (v, more)) (hcap : need v ≤ cap)
    (hfault : ∀ k, fault = some k → msg.length ≤ k) :
    fromIo t ⟨msg ++ more, fault, 0, cap, 0, []⟩ =
      .ok (v, ⟨more, fault, msg.length, cap, need v, mkSlots 0 (leaves v)⟩) := by
  rw [reader_step hdec rfl,
    if_pos ⟨by simpa using hcap, .inr (faultOk_iff.2 (by simpa using hfault))⟩]
  simp

theorem reader_equiv' {t : Ty} {v : Val} {msg more : List Byte} {fault : Option Nat} {cap : Nat}
    (hdec : dec t (msg ++ more) = .ok (v, more)) (hcap : need v ≤ cap)
    (hfault : ∀ k, fault = some k → msg.length ≤ k) :
    ∃ st', fromIo t ⟨msg ++ more, fault, 0, cap, 0, []⟩ = .ok (v, st') ∧
      st'.stream = more ∧ st'.delivered = msg.length ∧
      st'.scratchUsed = need v ∧ st'.scratchLeft = cap - need v ∧
      SlotsOk cap st'.slots ∧ st'.slots.map (·.2) = leaves v :=
  ⟨_, reader_equiv hdec hcap hfault, rfl, rfl, rfl, rfl, (slots_disjoint v hcap).1,
    (slots_disjoint v hcap).2.1⟩

/-- the serializer's output through a reader: `from_io(to_stdvec(v))` is `v`. -/
theorem reader_roundtrip {v : Val} {t : Ty} (h : hasTy v t = true) (more : List Byte) {cap : Nat}
    (hcap : need v ≤ cap) :
    fromIo t ⟨enc v ++ more, none, 0, cap, 0, []⟩ =
      .ok (v, ⟨more, none, (enc v).length, cap, need v, mkSlots 0 (leaves v)⟩) :=
  reader_equiv (roundtrip v t h more) hcap (fun _ hk => by cases hk)

/-- `from_io` against the slice decoder on the bytes the reader has left: an error is
the slice decoder's, or `DeserializeUnexpectedEnd` … -/
theorem fromIo_error {t : Ty} {st : IOReaderSt} {e : Err} (h : fromIo t st = .error e) :
    dec t st.stream = .error e ∨ e = .unexpectedEnd := by
  have hs := decG_agrees IOReader.sim t st trivial
  rw [show decG IOReader t st = _ from h] at hs
  exact hs.imp_right And.right

/-- … and a value is the slice decoder's on a message `msg` at the head of the stream, for
which the resources sufficed; the final state is the initial one advanced by `msg` and the
slots of `v`. -/
theorem fromIo_ok {t : Ty} {v : Val} {st st' : IOReaderSt} (h : fromIo t st = .ok (v, st')) :
    ∃ msg, st.stream = msg ++ st'.stream ∧ dec t st.stream = .ok (v, st'.stream) ∧
      st.fits (leaves v).sum msg.length ∧ st' = st.adv msg.length (leaves v) := by
  have hs := decG_agrees IOReader.sim t st trivial
  rw [show decG IOReader t st = _ from h] at hs
  obtain ⟨msg, hmsg, hp⟩ := dec_sound t _ v _ hs.1
  obtain ⟨_, hst, hf⟩ := ioRes_ok ((io_permitted hp st _ hmsg).symm.trans h)
  exact ⟨msg, hmsg, hs.1, hf, hst⟩

/-- C11: whenever `from_io` succeeds — from ANY state, with or without a
fault position, whatever the scratch — its value is the slice decoder's value
on the bytes the reader had left, and the reader is left exactly at the slice
decoder's remainder; every byte taken from the stream is counted in
`delivered` (nothing is read and dropped); from a state with `scratchUsed ≤ scratchCap` the
slots handed out during the call are contiguous from the old scratch cursor, pairwise disjoint
and inside the scratch buffer. -/
theorem reader_value_eq_slice_gen {t : Ty} {v : Val} {st st' : IOReaderSt}
    (h : fromIo t st = .ok (v, st')) :
    dec t st.stream = .ok (v, st'.stream) ∧
    st'.delivered + st'.stream.length = st.delivered + st.stream.length ∧
    st'.fault = st.fault ∧ st'.scratchCap = st.scratchCap ∧
    (st.scratchUsed ≤ st.scratchCap →
      ∃ lens, st'.slots = st.slots ++ mkSlots st.scratchUsed lens ∧
        st'.scratchUsed = st.scratchUsed + lens.sum ∧ st'.scratchUsed ≤ st.scratchCap ∧
        SlotsOk st.scratchCap (mkSlots st.scratchUsed lens)) := by
  obtain ⟨msg, hmsg, hd, hf, rfl⟩ := fromIo_ok h
  have hl := congrArg List.length hmsg
  rw [List.length_append] at hl
  have hu : st.scratchUsed ≤ st.scratchCap → st.scratchUsed + (leaves v).sum ≤ st.scratchCap :=
    fun h0 => by have := hf.1; omega
  exact ⟨hd, show st.delivered + msg.length + _ = _ by omega, rfl, rfl,
    fun h0 => ⟨leaves v, rfl, rfl, hu h0, mkSlots_ok (hu h0)⟩⟩

theorem reader_value_eq_slice {t : Ty} {v : Val} {s : List Byte} {cap : Nat} {st' : IOReaderSt}
    (h : fromIo t ⟨s, none, 0, cap, 0, []⟩ = .ok (v, st')) :
    ∃ rest, dec t s = .ok (v, rest) ∧ st'.stream = rest :=
  ⟨st'.stream, (reader_value_eq_slice_gen h).1, rfl⟩

/-- the converse of `reader_equiv`. -/
theorem reader_success_exact {t : Ty} {v : Val} {s : List Byte} {fault : Option Nat} {cap : Nat}
    {st' : IOReaderSt} (h : fromIo t ⟨s, fault, 0, cap, 0, []⟩ = .ok (v, st')) :
    ∃ msg, s = msg ++ st'.stream ∧ dec t s = .ok (v, st'.stream) ∧
      st' = ⟨st'.stream, fault, msg.length, cap, need v, mkSlots 0 (leaves v)⟩ ∧
      need v ≤ cap ∧ (msg.length = 0 ∨ ∀ k, fault = some k → msg.length ≤ k) := by
  obtain ⟨msg, hmsg, hd, hf, rfl⟩ := fromIo_ok h
  refine ⟨msg, hmsg, hd, ?_, ?_⟩
  · simp [IOReaderSt.adv, need_eq_sum_leaves]
  · simpa [IOReaderSt.fits, need_eq_sum_leaves, faultOk_iff] using hf

/-- `from_io` applied `ms.length` times to one reader.  `ms` lists, per message,
its type, the value slice decoding gives, and its bytes. -/
theorem reader_consecutive_gen (more : List Byte) (fault : Option Nat) :
    ∀ (ms : List (Ty × Val × List Byte)) (d cap : Nat),
    (∀ m ∈ ms, ∀ r, dec m.1 (m.2.2 ++ r) = .ok (m.2.1, r)) →
    (ms.map (fun m => need m.2.1)).sum ≤ cap →
    (∀ k, fault = some k → d + (ms.map (fun m => m.2.2.length)).sum ≤ k) →
    fromIoSeq (ms.map (·.1)) ⟨(ms.map (·.2.2)).flatten ++ more, fault, d, cap, 0, []⟩ =
      .ok (ms.map (·.2.1),
        ⟨more, fault, d + (ms.map (fun m => m.2.2.length)).sum,
          cap - (ms.map (fun m => need m.2.1)).sum, 0, []⟩)
  | [] => fun d cap _ _ _ => by simp [fromIoSeq]
  | (t, v, msg) :: ms => fun d cap hdec hcap hf => by
    simp only [List.map_cons, List.sum_cons, List.flatten_cons, List.append_assoc] at hcap hf ⊢
    have h1 := hdec (t, v, msg) List.mem_cons_self ((ms.map (·.2.2)).flatten ++ more)
    simp only at h1
    have hok : faultOk fault (d + msg.length) = true :=
      faultOk_iff.2 fun k hk => by have := hf k hk; omega
    simp only [fromIoSeq]
    rw [reader_step h1 rfl, if_pos ⟨by simp only [Nat.sub_zero]; omega, .inr hok⟩]
    simp only [IOReaderSt.next, Nat.zero_add]
    rw [reader_consecutive_gen more fault ms (d + msg.length) (cap - need v)
      (fun m hm => hdec m (List.mem_cons_of_mem _ hm)) (by omega)
      (fun k hk => by have := hf k hk; omega)]
    simp only [Nat.add_assoc, Nat.sub_sub]

/-- C11: `k` messages back to back on one stream: `k` consecutive `from_io`
calls (each given the reader and the scratch returned by the previous one)
yield, in order, the values slice decoding gives for each message, provided
the scratch buffer holds the sum of their demands and the reader does not
fault before the end of the last message.  The reader ends exactly at `more`,
having delivered exactly the total length of the messages.  (With
`more := the remaining messages ++ more'` the same statement describes every
intermediate call: each call leaves the stream at the start of the next
message.) -/
theorem reader_consecutive (ms : List (Ty × Val × List Byte)) (more : List Byte)
    (fault : Option Nat) (cap : Nat)
    (hdec : ∀ m ∈ ms, ∀ r, dec m.1 (m.2.2 ++ r) = .ok (m.2.1, r))
    (hcap : (ms.map (fun m => need m.2.1)).sum ≤ cap)
    (hfault : ∀ k, fault = some k → (ms.map (fun m => m.2.2.length)).sum ≤ k) :
    fromIoSeq (ms.map (·.1)) ⟨(ms.map (·.2.2)).flatten ++ more, fault, 0, cap, 0, []⟩ =
      .ok (ms.map (·.2.1),
        ⟨more, fault, (ms.map (fun m => m.2.2.length)).sum,
          cap - (ms.map (fun m => need m.2.1)).sum, 0, []⟩) := by
  have := reader_consecutive_gen more fault ms 0 cap hdec hcap
    (fun k hk => by simpa using hfault k hk)
  simpa using this

/-- two messages, spelled out: the second call starts exactly where the first
one stopped. -/
theorem reader_two {t1 t2 : Ty} {v1 v2 : Val} {m1 m2 more : List Byte} {cap : Nat}
    (h1 : ∀ r, dec t1 (m1 ++ r) = .ok (v1, r)) (h2 : ∀ r, dec t2 (m2 ++ r) = .ok (v2, r))
    (hcap : need v1 + need v2 ≤ cap) :
    ∃ st1 st2, fromIo t1 ⟨m1 ++ m2 ++ more, none, 0, cap, 0, []⟩ = .ok (v1, st1) ∧
      st1.stream = m2 ++ more ∧ st1.delivered = m1.length ∧
      fromIo t2 st1.next = .ok (v2, st2) ∧ st2.stream = more ∧
      st2.delivered = m1.length + m2.length := by
  have e1 := reader_equiv (fault := none) (cap := cap) (h1 (m2 ++ more)) (by omega)
    (fun _ hk => by cases hk)
  rw [← List.append_assoc] at e1
  refine ⟨_, ⟨more, none, m1.length + m2.length, cap - need v1, need v2, mkSlots 0 (leaves v2)⟩,
    e1, rfl, rfl, ?_, rfl, rfl⟩
  rw [reader_step (h2 more) rfl, if_pos ⟨by simp [IOReaderSt.next]; omega, .inr rfl⟩]
  simp [IOReaderSt.next]

/-- C11: a scratch buffer that is too small (from any state: less scratch
left than the value needs) ⇒ `DeserializeUnexpectedEnd`: not a panic, not a
wrong value. -/
theorem scratch_too_small_gen {t : Ty} {v : Val} {msg more : List Byte} {st : IOReaderSt}
    (hdec : dec t (msg ++ more) = .ok (v, more)) (hs : st.stream = msg ++ more)
    (h : st.scratchCap - st.scratchUsed < need v) :
    fromIo t st = .error .unexpectedEnd := by
  rw [reader_step hdec hs, if_neg (fun hc => by omega)]

theorem scratch_too_small {t : Ty} {v : Val} {msg more : List Byte} {fault : Option Nat} {cap : Nat}
    (hdec : dec t (msg ++ more) = .ok (v, more)) (h : cap < need v) :
    fromIo t ⟨msg ++ more, fault, 0, cap, 0, []⟩ = .error .unexpectedEnd :=
  scratch_too_small_gen hdec rfl (by simpa using h)

/-- C11: a reader fault strictly inside the message ⇒ `DeserializeUnexpectedEnd`. -/
theorem reader_fault {t : Ty} {v : Val} {msg more : List Byte} {k cap : Nat}
    (hdec : dec t (msg ++ more) = .ok (v, more)) (hk : k < msg.length) :
    fromIo t ⟨msg ++ more, some k, 0, cap, 0, []⟩ = .error .unexpectedEnd := by
  rw [reader_step hdec rfl, if_neg]
  rintro ⟨_, h0 | hf⟩
  · omega
  · have := faultOk_iff.1 hf k rfl; omega

/-- C11: end of stream strictly inside the message ⇒ `DeserializeUnexpectedEnd`
(whatever the scratch size and fault position). -/
theorem reader_eof {t : Ty} {v : Val} {msg more q : List Byte} (st : IOReaderSt)
    (hdec : dec t (msg ++ more) = .ok (v, more)) (hq : q <+: msg) (hne : q ≠ msg)
    (hs : st.stream = q) : fromIo t st = .error .unexpectedEnd := by
  have hd := strict_prefix_unexpected_end hdec q hq hne
  cases hr : fromIo t st with
  | error e =>
    rcases fromIo_error hr with h | rfl
    · rw [hs, hd] at h; cases h; rfl
    · rfl
  | ok x =>
    obtain ⟨_, _, h, _⟩ := fromIo_ok (v := x.1) (st' := x.2) hr
    rw [hs, hd] at h
    cases h

/-- C11: `from_io` never panics, from any state at all; its errors are the
slice decoder's error kinds. -/
theorem fromIo_error_kinds (t : Ty) (st : IOReaderSt) (e : Err) (h : fromIo t st = .error e) :
    DecErr e := by
  rcases fromIo_error h with hd | rfl
  · exact dec_error_kinds _ _ _ hd
  · exact DecErr.unexpectedEnd

theorem fromIo_total (t : Ty) (st : IOReaderSt) : fromIo t st ≠ .error .panic := by
  intro h
  have := fromIo_error_kinds t st _ h
  simp [DecErr] at this

theorem fromIo_error_eq_slice {t : Ty} {st : IOReaderSt} {e : Err}
    (h : fromIo t st = .error e) (hne : e ≠ .unexpectedEnd) : dec t st.stream = .error e :=
  (fromIo_error h).resolve_right hne

/-- C11: a sink that never fails receives exactly the plain encoding
(appended to what it held), for every way it accepts the data in pieces (see
the header). -/
theorem writer_bytes_gen (v : Val) (w : List Byte) :
    toIo v ⟨w, none⟩ = (⟨w ++ enc v, none⟩, .ok (w ++ enc v)) :=
  serializeWith_writeFlF true v ⟨w, none⟩ (fun _ hk => nomatch hk)

theorem writer_bytes (v : Val) : toIo v ⟨[], none⟩ = (⟨enc v, none⟩, .ok (enc v)) := by
  simpa using writer_bytes_gen v []

/-- C11: a fault index at or beyond the end of the encoding is never reached. -/
theorem writer_no_fault_needed (v : Val) (k : Nat) (h : (enc v).length ≤ k) :
    toIo v ⟨[], some k⟩ = (⟨enc v, some k⟩, .ok (enc v)) := by
  refine (serializeWith_writeFlF true v ⟨[], some k⟩ (fun _ _ => Nat.zero_le _)).trans ?_
  simp only [WriterSt.writeAll, List.length_nil, Nat.zero_add, if_pos h, List.nil_append]

/-- C11: a sink that fails at byte index `k` inside the encoding: the result is
`SerializeBufferFull` (an error, not a panic) and the sink holds exactly the
first `k` bytes of the encoding — a prefix; nothing after the fault was
written. -/
theorem writer_fault (v : Val) (k : Nat) (h : k < (enc v).length) :
    toIo v ⟨[], some k⟩ = (⟨(enc v).take k, some k⟩, .error .bufferFull) := by
  refine (serializeWith_writeFlF true v ⟨[], some k⟩ (fun _ _ => Nat.zero_le _)).trans ?_
  simp only [WriterSt.writeAll, List.length_nil, Nat.zero_add, if_neg (Nat.not_le.2 h),
    List.nil_append, Nat.sub_zero]

theorem writer_fault_prefix (v : Val) (k : Nat) (h : k < (enc v).length) :
    (toIo v ⟨[], some k⟩).2 = .error .bufferFull ∧
    (toIo v ⟨[], some k⟩).1.written <+: enc v ∧
    (toIo v ⟨[], some k⟩).1.written.length = k := by
  rw [writer_fault v k h]
  exact ⟨rfl, List.take_prefix _ _, by simp; omega⟩

/-- the threshold form, like `to_slice_threshold`. -/
theorem writer_threshold (v : Val) (k : Nat) :
    (toIo v ⟨[], some k⟩).2 = if (enc v).length ≤ k then .ok (enc v) else .error .bufferFull := by
  by_cases h : (enc v).length ≤ k
  · rw [if_pos h, writer_no_fault_needed v k h]
  · rw [if_neg h, writer_fault v k (by omega)]

theorem writer_always_prefix (v : Val) (fa : Option Nat) :
    (toIo v ⟨[], fa⟩).1.written <+: enc v ∧ (toIo v ⟨[], fa⟩).2 ≠ .error .panic := by
  cases fa with
  | none => rw [writer_bytes]; exact ⟨List.prefix_refl _, by simp⟩
  | some k =>
    by_cases h : (enc v).length ≤ k
    · rw [writer_no_fault_needed v k h]; exact ⟨List.prefix_refl _, by simp⟩
    · rw [writer_fault v k (by omega)]; exact ⟨List.take_prefix _ _, by simp⟩

/-- a sink whose `flush` fails: everything was written, the result is
`SerializeBufferFull`. -/
theorem writer_flush_fault (v : Val) :
    serializeWith (WriteFlF false) ⟨[], none⟩ v = (⟨enc v, none⟩, .error .bufferFull) :=
  serializeWith_writeFlF false v ⟨[], none⟩ (fun _ hk => nomatch hk)

/-- `to_io` returns the writer: a second `to_io` appends (the doc example
`to_io(&true, &mut w)` then `to_io("Hi!", w)`). -/
theorem writer_consecutive (v1 v2 : Val) :
    toIo v2 (toIo v1 ⟨[], none⟩).1 = (⟨enc v1 ++ enc v2, none⟩, .ok (enc v1 ++ enc v2)) := by
  rw [writer_bytes, writer_bytes_gen]

theorem writer_reader_roundtrip {v : Val} {t : Ty} (h : hasTy v t = true) {cap : Nat}
    (hcap : need v ≤ cap) :
    fromIo t ⟨(toIo v ⟨[], none⟩).1.written, none, 0, cap, 0, []⟩ =
      .ok (v, ⟨[], none, (enc v).length, cap, need v, mkSlots 0 (leaves v)⟩) := by
  rw [writer_bytes]
  have := reader_roundtrip h [] hcap
  simpa using this

namespace C11

def exT : Ty := .struct [.str, .f32, .str]
def exV : Val := .struct [.str [0x68, 0x69], .f32 0x3F800000, .str [0x61, 0x62, 0x63]]
def exMsg : List Byte := [2, 0x68, 0x69, 0, 0, 0x80, 0x3F, 3, 0x61, 0x62, 0x63]

example : hasTy exV exT = true := by decide
example : enc exV = exMsg := by decide
example : need exV = 9 := by decide
example : leaves exV = [2, 4, 3] := by decide

-- exactly enough scratch; two trailing bytes stay on the reader
example : fromIo exT ⟨exMsg ++ [9, 9], none, 0, 9, 0, []⟩
    = .ok (exV, ⟨[9, 9], none, 11, 9, 9, [(0, 2), (2, 4), (6, 3)]⟩) := by rfl
-- one scratch byte short
example : fromIo exT ⟨exMsg ++ [9, 9], none, 0, 8, 0, []⟩ = .error .unexpectedEnd := by rfl
-- the reader may fail right after the message …
example : fromIo exT ⟨exMsg ++ [9, 9], some 11, 0, 9, 0, []⟩
    = .ok (exV, ⟨[9, 9], some 11, 11, 9, 9, [(0, 2), (2, 4), (6, 3)]⟩) := by rfl
-- … but not inside it
example : fromIo exT ⟨exMsg ++ [9, 9], some 10, 0, 9, 0, []⟩ = .error .unexpectedEnd := by rfl
example : fromIo exT ⟨exMsg.take 10, none, 0, 9, 0, []⟩ = .error .unexpectedEnd := by rfl
-- a non-flavour error is the slice decoder's
example : fromIo .bool ⟨[2], none, 0, 0, 0, []⟩ = .error .badBool := by rfl
-- the pointer-level slice run, from the start and from cursor 1 inside a larger allocation
example : takeFromBytesG exT (exMsg ++ [9, 9]) = .ok (exV, [9, 9]) := by rfl
example : decG SliceDe exT ⟨[7] ++ exMsg ++ [9, 9], 1, 14⟩
    = .ok (exV, ⟨[7] ++ exMsg ++ [9, 9], 12, 14⟩) := by rfl
-- a cursor outside the allocation is the explicit panic outcome (excluded by
-- `slice_reads_in_bounds`)
example : SliceDe.pop ⟨[1, 2], 2, 3⟩ = .error .panic := by rfl
-- three messages on one stream, one scratch buffer of 18 bytes
example : fromIoSeq [exT, .bool, exT] ⟨exMsg ++ [1] ++ exMsg ++ [7], none, 0, 18, 0, []⟩
    = .ok ([exV, .bool true, exV], ⟨[7], none, 23, 0, 0, []⟩) := by rfl
example : toIo exV ⟨[], none⟩ = (⟨exMsg, none⟩, .ok exMsg) := by rfl
example : toIo exV ⟨[], some 5⟩ = (⟨[2, 0x68, 0x69, 0, 0], some 5⟩, .error .bufferFull) := by rfl
example : toIo exV ⟨[], some 11⟩ = (⟨exMsg, some 11⟩, .ok exMsg) := by rfl
example : (toIo exV ⟨[], some 10⟩).2 = .error .bufferFull := by rfl

end C11

end Postcard
