import Postcard.Lemmas.Flavor
import Postcard.Model.Cobs
/-
  C05 when a caller keeps driving a storage flavour AFTER it has reported buffer-full (the
  `flavseq` op): for the plain storages `Slice` / `HVec`, over EVERY sequence of `try_push` /
  `try_extend` calls, whatever mixture of successes and failures, the cursor stays inside the
  buffer, the buffer keeps its length, and `finalize` hands back the bytes written so far (never a
  panic).  `Cobs<Slice>` is different: see the example at the end.
-/
namespace Postcard

/-- one call of the public Flavor API -/
inductive Call
  | push (b : Byte)
  | extend (bs : List Byte)

def Call.apply {σ ω} (F : Flavor σ ω) (s : σ) : Call → σ × Option Err
  | .push b => F.tryPush s b
  | .extend bs => F.tryExtend s bs

/-- drive the flavour through ALL the calls, continuing after errors -/
def driveAll {σ ω} (F : Flavor σ ω) (s : σ) : List Call → σ
  | [] => s
  | c :: cs => driveAll F (c.apply F s).1 cs

theorem Atomic.driveAll_inv {σ ω : Type} {F : Flavor σ ω} (A : Atomic F) (calls : List Call) :
    ∀ s, A.used s ≤ A.cap s →
      A.cap (driveAll F s calls) = A.cap s ∧ A.used (driveAll F s calls) ≤ A.cap s := by
  induction calls with
  | nil => exact fun s h => ⟨rfl, h⟩
  | cons c cs ih =>
    intro s h
    have hstep : A.cap (c.apply F s).1 = A.cap s ∧ A.used (c.apply F s).1 ≤ A.cap s := by
      cases c with
      | push b => exact A.step_inv s (.push b) h
      | extend bs => exact A.step_inv s (.extend bs) h
    obtain ⟨h3, h4⟩ := ih (c.apply F s).1 (hstep.1 ▸ hstep.2)
    exact ⟨h3.trans hstep.1, hstep.1 ▸ h4⟩

/-- **C05 (calls after an error, `Slice`)** over every call sequence from a fresh slice over
`mem`: the buffer keeps its length, the cursor stays inside it, and `finalize` returns `Ok` with
exactly the bytes in front of the cursor - never a panic, never more than the buffer holds. -/
theorem slice_any_history (mem : List Byte) (calls : List Call) :
    let s := driveAll Slice ⟨mem, 0⟩ calls
    s.mem.length = mem.length ∧ s.cursor ≤ mem.length ∧
      (Slice.finalize s).2 = .ok (s.mem.take s.cursor) ∧
      (s.mem.take s.cursor).length ≤ mem.length := by
  intro s
  obtain ⟨h1, h2⟩ := Slice.atomic.driveAll_inv calls ⟨mem, 0⟩ (Nat.zero_le _)
  exact ⟨h1, h2, rfl, by rw [List.length_take]; exact Nat.le_trans (Nat.min_le_left _ _) h2⟩

/-- the same for `heapless::Vec`: the length never exceeds the capacity, whatever is called after
an error. -/
theorem hvec_any_history (cap : Nat) (calls : List Call) :
    let s := driveAll HVec ⟨cap, []⟩ calls
    s.cap = cap ∧ s.vec.length ≤ cap ∧ (HVec.finalize s).2 = .ok s.vec := by
  intro s
  obtain ⟨h1, h2⟩ := HVec.atomic.driveAll_inv calls ⟨cap, []⟩ (Nat.zero_le _)
  exact ⟨h1, h2, rfl⟩

/-- OBSERVATION (the crate as it is, reproduced by the model): `Cobs<Slice>` over a one-byte
buffer -
`try_new` takes the only byte for its placeholder, `try_push(0)` is refused (`buffer-full`), and
`finalize` then PANICS (the encoder state already points at a second placeholder that was never
pushed; `self.flav[idx]` is out of range).  Outside C05's statement (DESIGN 8); not compared by
`flavseq`. -/
example :
    let st := (Cobs.tryNew Slice ⟨[0xA5], 0⟩).1
    let st2 := ((Cobs Slice).tryPush st 0)
    (st2.2 = some .bufferFull) ∧ (((Cobs Slice).finalize st2.1).2 = .error .panic) :=
  ⟨rfl, rfl⟩

end Postcard
