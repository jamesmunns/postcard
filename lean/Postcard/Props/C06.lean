import Postcard.Lemmas.Cobs
/-
  C06: "COBS-framed output is one well-formed frame and decodes back, frame by frame".  The
  reference is `Spec/Cobs.lean` (COBS from its definition).
-/
namespace Postcard
open Spec

/-- The `u8` counters of `EncoderState` never overflow: `num_bt_sent += 1` / `offset_idx += 1`
are unchecked `u8` additions (panic in a debug build, wrap in release).  In every state
reachable from `default` by `push`es both counters are in `1..=254` before the increment. -/
theorem enc_u8_no_overflow (bs : List Byte) :
    let e := bs.foldl (fun e b => (e.push b).1) EncSt.default
    e.numBtSent + 1 < 256 ∧ e.offsetIdx + 1 < 256 ∧ 1 ≤ e.numBtSent ∧
      e.offsetIdx = e.numBtSent := by
  obtain ⟨c, k, hk, h⟩ := EncSt.reach bs 0 0 (Nat.zero_le _)
  intro e
  rw [show e = ⟨c, k + 1, k + 1⟩ from h]
  show k + 1 + 1 < 256 ∧ k + 1 + 1 < 256 ∧ 1 ≤ k + 1 ∧ k + 1 = k + 1
  omega

/-- `Cobs<AllocVec>` (growable storage): never fails. -/
theorem cobs_flavor_eq_spec (cs : List Chunk) (m : List Byte) (hm : cs.flatMap Chunk.bytes = m) :
    ∃ st1 st2 st3, Cobs.tryNew AllocVec [] = (st1, none) ∧
      (Cobs AllocVec).feed st1 cs = (st2, none) ∧
      (Cobs AllocVec).finalize st2 = (st3, .ok (cobsEncode m ++ [0])) :=
  cobs_flavor_eq_spec_lawful LawfulIdx.allocVec [] cs m hm rfl trivial

/-- byte-by-byte version (`try_extend(m)` on the COBS flavour = the trait
default = one `try_push` per byte). -/
theorem cobs_flavor_eq_spec_bytes (m : List Byte) :
    ∃ st1 st2 st3, Cobs.tryNew AllocVec [] = (st1, none) ∧
      (Cobs AllocVec).tryExtend st1 m = (st2, none) ∧
      (Cobs AllocVec).finalize st2 = (st3, .ok (cobsEncode m ++ [0])) :=
  cobs_run_lawful LawfulIdx.allocVec rfl m trivial

/-- `Cobs<HVec<B>>` with capacity for the frame. -/
theorem cobs_flavor_eq_spec_hvec (cap : Nat) (cs : List Chunk) (m : List Byte)
    (hm : cs.flatMap Chunk.bytes = m) (hcap : (cobsEncode m).length + 1 ≤ cap) :
    ∃ st1 st2 st3, Cobs.tryNew HVec ⟨cap, []⟩ = (st1, none) ∧
      (Cobs HVec).feed st1 cs = (st2, none) ∧
      (Cobs HVec).finalize st2 = (st3, .ok (cobsEncode m ++ [0])) :=
  cobs_flavor_eq_spec_lawful LawfulIdx.hvec ⟨cap, []⟩ cs m hm rfl
    (LawfulIdx.hvec_room hcap)

/-- `Cobs<Slice>` over a caller buffer `mem` long enough for the frame. -/
theorem cobs_flavor_eq_spec_slice (mem : List Byte) (cs : List Chunk) (m : List Byte)
    (hm : cs.flatMap Chunk.bytes = m) (hcap : (cobsEncode m).length + 1 ≤ mem.length) :
    ∃ st1 st2 st3, Cobs.tryNew Slice ⟨mem, 0⟩ = (st1, none) ∧
      (Cobs Slice).feed st1 cs = (st2, none) ∧
      (Cobs Slice).finalize st2 = (st3, .ok (cobsEncode m ++ [0])) :=
  cobs_flavor_eq_spec_lawful LawfulIdx.slice ⟨mem, 0⟩ cs m hm rfl
    (LawfulIdx.slice_room hcap)

/-- through `serialize_with_flavor`: serializing any value `v` with
`Cobs::try_new(AllocVec)` yields the COBS frame of its call bytes. -/
theorem cobs_serializeWith (v : Val) :
    ∃ st1, Cobs.tryNew AllocVec [] = (st1, none) ∧
      (serializeWith (Cobs AllocVec) st1 v).2 =
        .ok (cobsEncode ((emit v).flatMap Chunk.bytes) ++ [0]) := by
  obtain ⟨st1, st2, st3, h1, h2, h3⟩ := cobs_flavor_eq_spec (emit v) _ rfl
  refine ⟨st1, h1, ?_⟩
  simp only [serializeWith, h2, h3]

/-- The `Cobs` flavour never panics, even when the storage runs full; `self.flav[idx] = mval`
(`IndexMut`) is its only panic site.  For an inner flavour satisfying `LawfulIdx.Total`, started
empty: whatever the capacity and whatever the call sequence, `try_new; calls…; finalize` (stopping
at the first error, as the serializer does) ends in `Ok(_)` or `SerializeBufferFull`: `code_idx`
always lies inside the bytes already written. -/
theorem cobs_flavor_no_panic {σ : Type} {F : Flavor σ (List Byte)} (L : LawfulIdx F)
    (T : L.Total) (s0 : σ) (h0 : L.log s0 = []) (hv : T.valid s0) (cs : List Chunk) :
    (∃ st, Cobs.tryNew F s0 = (st, some .bufferFull)) ∨
    (∃ st1, Cobs.tryNew F s0 = (st1, none) ∧
      ((∃ st2, (Cobs F).feed st1 cs = (st2, some .bufferFull)) ∨
       (∃ st2, (Cobs F).feed st1 cs = (st2, none) ∧
         ((∃ out, ((Cobs F).finalize st2).2 = .ok out) ∨
          ((Cobs F).finalize st2).2 = .error .bufferFull)))) := by
  rcases cobs_run_refusing T.refusing h0 (chunkBytes cs) hv with
    ⟨st1, h1, _⟩ | ⟨st1, h1, hrest⟩
  · exact .inl ⟨st1, h1⟩
  · refine .inr ⟨st1, h1, ?_⟩
    rw [Flavor.feed_defaultExtend _ (cobs_tryExtend F)]
    rcases hrest with ⟨st2, h2, _⟩ | ⟨st2, h2, ⟨st3, h3, _⟩ | ⟨s3, h3, _⟩⟩
    · exact .inl ⟨st2, h2⟩
    · exact .inr ⟨st2, h2, .inr (by rw [h3])⟩
    · exact .inr ⟨st2, h2, .inl ⟨_, by rw [h3]⟩⟩

/-- instance: `Cobs<Slice>` over ANY caller buffer (also a too-short one). -/
theorem cobs_flavor_no_panic_slice (mem : List Byte) (cs : List Chunk) :
    (∃ st, Cobs.tryNew Slice ⟨mem, 0⟩ = (st, some .bufferFull)) ∨
    (∃ st1, Cobs.tryNew Slice ⟨mem, 0⟩ = (st1, none) ∧
      ((∃ st2, (Cobs Slice).feed st1 cs = (st2, some .bufferFull)) ∨
       (∃ st2, (Cobs Slice).feed st1 cs = (st2, none) ∧
         ((∃ out, ((Cobs Slice).finalize st2).2 = .ok out) ∨
          ((Cobs Slice).finalize st2).2 = .error .bufferFull)))) :=
  cobs_flavor_no_panic LawfulIdx.slice LawfulIdx.sliceTotal ⟨mem, 0⟩ rfl
    (Nat.zero_le _) cs

/-- instance: `Cobs<HVec<B>>` of ANY capacity. -/
theorem cobs_flavor_no_panic_hvec (cap : Nat) (cs : List Chunk) :
    (∃ st, Cobs.tryNew HVec ⟨cap, []⟩ = (st, some .bufferFull)) ∨
    (∃ st1, Cobs.tryNew HVec ⟨cap, []⟩ = (st1, none) ∧
      ((∃ st2, (Cobs HVec).feed st1 cs = (st2, some .bufferFull)) ∨
       (∃ st2, (Cobs HVec).feed st1 cs = (st2, none) ∧
         ((∃ out, ((Cobs HVec).finalize st2).2 = .ok out) ∨
          ((Cobs HVec).finalize st2).2 = .error .bufferFull)))) :=
  cobs_flavor_no_panic LawfulIdx.hvec LawfulIdx.hvecTotal ⟨cap, []⟩ rfl trivial cs

/-- the frame body contains no zero (`frame_no_interior_zero`), so the frame
`cobsEncode m ++ [0]` contains exactly one zero, its last
byte: cutting any buffer that starts with the frame at the first zero gives back
exactly the body. -/
theorem frame_one_zero (m rest : List Byte) :
    (cobsEncode m ++ [0]).count 0 = 1 ∧
    (cobsEncode m ++ [0] ++ rest).takeWhile (· ≠ 0) = cobsEncode m := by
  constructor
  · rw [List.count_append, List.count_eq_zero.mpr (fun h => frame_no_interior_zero m 0 h rfl)]
    simp
  · exact frameBody_frame m rest

/-- length of the frame body: one byte per message byte, one leading code
byte, plus one code byte per full (254 data bytes, code 0xFF) block;
`Spec.fullBlocks` counts those blocks. -/
theorem frame_length (m : List Byte) :
    (cobsEncode m).length = m.length + 1 + fullBlocks m ∧
    (cobsEncode m).length ≤ m.length + m.length / 254 + 1 ∧
    ((∀ b ∈ m, b ≠ 0) → (cobsEncode m).length = m.length + m.length / 254 + 1) := by
  have hlen := cobsEncodeGo_length [] m
  obtain ⟨hle, heq⟩ := fullBlocksGo_bounds 0 m (Nat.zero_le _)
  simp only [List.length_nil, Nat.zero_add] at hlen hle heq
  refine ⟨by simpa [cobsEncode, fullBlocks] using hlen, ?_, ?_⟩
  · simp only [cobsEncode]; omega
  · intro hz
    have := heq hz
    simp only [cobsEncode]; omega

/-- with the sentinel: at most `n + n/254 + 2` bytes. -/
theorem frame_length_with_sentinel (m : List Byte) :
    (cobsEncode m ++ [0]).length ≤ m.length + m.length / 254 + 2 := by
  have := (frame_length m).2.1
  simp only [List.length_append, List.length_cons, List.length_nil]; omega

/-- the reference decoder inverts the reference encoder, and the crate's
in-place decoder agrees on any buffer that starts with the frame. -/
theorem decode_encode (m rest : List Byte) :
    cobsDecode (cobsEncode m) = some m ∧
    ∃ buf', decodeRaw (cobsEncode m ++ [0] ++ rest) =
        .ok (buf', m.length, (cobsEncode m).length) ∧
      buf'.take m.length = m ∧ buf'.drop (cobsEncode m).length = 0 :: rest ∧
      buf'.length = (cobsEncode m ++ [0] ++ rest).length := by
  refine ⟨cobsDecode_encode m, ?_⟩
  obtain ⟨b1, hb, hl, hd, ht⟩ := decodeRawSt_eq (cobsEncode m ++ [0] ++ rest)
  rw [frameBody_frame m rest, cobsDecode_encode] at hb ht
  rw [frameBody_frame m rest] at hd
  refine ⟨b1, by simp only [decodeRaw, hb], (ht m rfl).2, ?_, hl⟩
  rw [hd]; simp

/-- same without the final sentinel (frame body only, nothing after it). -/
theorem decode_encode_no_sentinel (m : List Byte) :
    ∃ buf', decodeRaw (cobsEncode m) = .ok (buf', m.length, (cobsEncode m).length) ∧
      buf'.take m.length = m ∧ buf'.length = (cobsEncode m).length := by
  obtain ⟨b1, hb, hl, _, ht⟩ := decodeRawSt_eq (cobsEncode m)
  rw [frameBody_of_zero_free (frame_no_interior_zero m), cobsDecode_encode] at hb ht
  exact ⟨b1, by simp only [decodeRaw, hb], (ht m rfl).2, hl⟩

theorem fromBytesCobs_frame {α : Type} (decF : List Byte → R α) (m rest : List Byte) :
    (fromBytesCobs decF (cobsEncode m ++ [0] ++ rest)).1 = decF m := by
  rw [fromBytesCobs_eq, frameBody_frame m rest, cobsDecode_encode]

/-- `take_from_bytes_cobs` on a buffer starting with the frame of `m`: the
payload handed to `from_bytes` is `m`, the returned remainder is exactly what
follows the frame; and if the final sentinel is absent (buffer = body only), the
payload is still `m` and the remainder is empty. -/
theorem take_frames {α : Type} (decF : List Byte → R α) (m rest : List Byte) :
    (takeFromBytesCobs decF (cobsEncode m ++ [0] ++ rest)).1 = (decF m).map (fun t => (t, rest)) ∧
    (takeFromBytesCobs decF (cobsEncode m)).1 = (decF m).map (fun t => (t, [])) := by
  constructor
  · rw [takeFromBytesCobs_eq, frameBody_frame m rest, cobsDecode_encode]
    simp
  · have hd : (cobsEncode m).drop ((cobsEncode m).length + 1) = [] :=
      List.drop_eq_nil_iff.mpr (by omega)
    rw [takeFromBytesCobs_eq, frameBody_of_zero_free (frame_no_interior_zero m),
      cobsDecode_encode]
    simp only [hd]

theorem cobs_frame_decodes {α : Type} (decF : List Byte → R α) (m rest : List Byte) (v : α)
    (h : decF m = .ok v) :
    (fromBytesCobs decF (cobsEncode m ++ [0] ++ rest)).1 = .ok v ∧
    (takeFromBytesCobs decF (cobsEncode m ++ [0] ++ rest)).1 = .ok (v, rest) :=
  ⟨(fromBytesCobs_frame decF m rest).trans h, by rw [(take_frames decF m rest).1, h]; rfl⟩

/-- the caller's loop: take `k` frames off the front of a buffer. -/
def takeAllFrames {α : Type} (decF : List Byte → R α) :
    Nat → List Byte → R (List α × List Byte)
  | 0, buf => .ok ([], buf)
  | k + 1, buf =>
    match (takeFromBytesCobs decF buf).1 with
    | .error e => .error e
    | .ok (t, rest) =>
      match takeAllFrames decF k rest with
      | .error e => .error e
      | .ok (ts, r) => .ok (t :: ts, r)

/-- frame-by-frame decoding of a concatenation of frames
`frame m₁ ++ … ++ frame mₖ ++ rest`. -/
theorem take_frames_iter {α : Type} (decF : List Byte → R α) (g : List Byte → α)
    (ms : List (List Byte)) (rest : List Byte) (hdec : ∀ m ∈ ms, decF m = .ok (g m)) :
    takeAllFrames decF ms.length ((ms.map cobsFrame).flatten ++ rest) = .ok (ms.map g, rest) := by
  induction ms with
  | nil => simp [takeAllFrames]
  | cons m ms ih =>
    have h1 := (take_frames decF m ((ms.map cobsFrame).flatten ++ rest)).1
    have e : ((m :: ms).map cobsFrame).flatten ++ rest =
        cobsEncode m ++ [0] ++ ((ms.map cobsFrame).flatten ++ rest) := by
      simp [cobsFrame]
    rw [hdec m (by simp)] at h1
    simp only [List.length_cons, takeAllFrames, e, h1, Except.map,
      ih (fun x hx => hdec x (by simp [hx]))]
    simp

-- concrete frames through the model (`Except` has no `DecidableEq` in core, hence `.toOption`)
example : (Cobs.tryNew AllocVec []).2 = none := by decide +kernel
example : ((Cobs AllocVec).finalize
    ((Cobs AllocVec).tryExtend (Cobs.tryNew AllocVec []).1 [0x11, 0x22, 0x00, 0x33]).1).2.toOption
    = some [3, 0x11, 0x22, 2, 0x33, 0] := by decide +kernel
example : ((Cobs Slice).finalize
    ((Cobs Slice).tryExtend (Cobs.tryNew Slice ⟨[9, 9, 9, 9, 9, 9], 0⟩).1
      [0x11, 0, 0x33]).1).2.toOption
    = some [2, 0x11, 2, 0x33, 0] := by decide +kernel
-- a too-short slice reports `bufferFull`, it does not panic
example : ((Cobs Slice).tryExtend (Cobs.tryNew Slice ⟨[9, 9], 0⟩).1 [0x11, 0, 0x33]).2
    = some .bufferFull := by decide +kernel
example : (decodeRaw [3, 0x11, 0x22, 2, 0x33, 0, 9, 9]).toOption
    = some ([0x11, 0x22, 0, 0x33, 0x33, 0, 9, 9], 4, 5) := by decide +kernel
example : (takeFromBytesCobs (fun l => (.ok l : R (List Byte)))
    [3, 0x11, 0x22, 2, 0x33, 0, 9, 9]).1.toOption = some ([0x11, 0x22, 0, 0x33], [9, 9]) := by
  decide +kernel
example : (takeFromBytesCobs (fun l => (.ok l : R (List Byte)))
    [3, 0x11, 0x22, 2, 0x33]).1.toOption = some ([0x11, 0x22, 0, 0x33], []) := by decide +kernel
example : (takeAllFrames (fun l => (.ok l : R (List Byte))) 2 [1, 0, 2, 7, 0, 5]).toOption
    = some ([[], [7]], [5]) := by decide +kernel

end Postcard
