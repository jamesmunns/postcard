import Postcard.Props.C17
/-
  C18 — "Dynamic codec is total on untrusted bytes, JSON and schemas": never panics; decoding
  allocates memory bounded by a constant multiple of the input length; whatever dynamic encoding
  accepts, dynamic decoding of the produced bytes succeeds and re-encodes to the same bytes.
  * totality: `dyn_total`, for EVERY schema, JSON value and byte string — relative to an unbounded
    stack, see the note there;
  * re-encoding: `dyn_reencode_partial` on `reencOk`; the exclusions are findings that are not
    repaired in /repo, each with a refuting witness (`witness_reencode_*`): `Option(t)` where `t`
    can encode a null-like payload (`nullHazard`), duplicate field names in hand-built schemas;
  * allocation: Props/C18Alloc.lean.
-/

namespace Postcard.Dyn

def NP {α : Type} (r : DR α) : Prop := r ≠ .error .panic

theorem NP_ok {α : Type} (a : α) : NP (Except.ok a : DR α) := by nofun
theorem NP_of_eq {α β : Type} {x : DR α} {e : DynErr} (hx : NP x) (h : x = .error e) :
    NP (Except.error e : DR β) := by
  subst h; intro h'; apply hx; cases h'; rfl

/-- `np_bind h`: the goal is `NP (match x with | .error e => .error e | .ok a => …)` and
`h : NP x`; closes the error branch, leaves the ok branch. -/
syntax "np_bind " term : tactic
macro_rules
  | `(tactic| np_bind $h) => `(tactic| (split; (next _ heq => exact NP_of_eq $h heq)))

theorem getI_np (b : Nat) (j : Json) : NP (getI b j) := by
  unfold getI; split <;> (try split) <;> nofun
theorem getU_np (b : Nat) (j : Json) : NP (getU b j) := by
  unfold getU; split <;> (try split) <;> nofun
theorem asI64R_np (j : Json) : NP (asI64R j) := by
  unfold asI64R; split <;> nofun
theorem asU64R_np (j : Json) : NP (asU64R j) := by
  unfold asU64R; split <;> nofun
theorem serStr_np (c : Bool) (j : Json) : NP (serStr c j) := by
  unfold serStr; split <;> (try split) <;> nofun
theorem serByteElems_np : ∀ xs : List Json, NP (serByteElems xs)
  | [] => NP_ok _
  | x :: xs => by
    unfold serByteElems
    np_bind (getU_np 8 x); np_bind (serByteElems_np xs); exact NP_ok _
theorem serAll_np {f : Json → DR (List Byte)} (hf : ∀ x, NP (f x)) :
    ∀ xs : List Json, NP (serAll f xs)
  | [] => NP_ok _
  | x :: xs => by
    unfold serAll
    np_bind (hf x); np_bind (serAll_np hf xs); exact NP_ok _
theorem serKvs_np {f : Json → DR (List Byte)} (hf : ∀ x, NP (f x)) :
    ∀ kvs : List (List Byte × Json), NP (serKvs f kvs)
  | [] => NP_ok _
  | (k, v) :: rest => by
    unfold serKvs
    np_bind (hf v); np_bind (serKvs_np hf rest); exact NP_ok _
theorem dynSerUnitVariant_np : ∀ (vs : List SVariant) (k : Nat) (s : List Byte),
    NP (dynSerUnitVariant vs k s)
  | [], _, _ => nofun
  | .mk n d :: rest, k, s => by
    unfold dynSerUnitVariant
    split
    · cases d <;> nofun
    · exact dynSerUnitVariant_np rest (k + 1) s

theorem dynTakeOne_np (bs : List Byte) : NP (dynTakeOne bs) := by
  cases bs <;> nofun
theorem dynTakeN_np (n : Nat) (bs : List Byte) : NP (dynTakeN n bs) := by
  unfold dynTakeN; split <;> nofun
theorem dynTakeVarint_np (bits : Nat) (bs : List Byte) : NP (dynTakeVarint bits bs) := by
  rw [dynTakeVarint_eq]
  unfold liftVarintErr
  split <;> nofun
theorem deN_np {f : List Byte → DR (Json × List Byte)} (hf : ∀ bs, NP (f bs)) :
    ∀ (n : Nat) (bs : List Byte), NP (deN f n bs)
  | 0, _ => NP_ok _
  | n + 1, bs => by
    unfold deN
    np_bind (hf bs); np_bind (deN_np hf n _); exact NP_ok _
theorem deKvs_np {f : List Byte → DR (Json × List Byte)} (hf : ∀ bs, NP (f bs)) :
    ∀ (n : Nat) (acc : List (List Byte × Json)) (bs : List Byte), NP (deKvs f n acc bs)
  | 0, _, _ => NP_ok _
  | n + 1, acc, bs => by
    unfold deKvs
    np_bind (dynTakeVarint_np 64 bs); np_bind (dynTakeN_np _ _)
    split
    · np_bind (hf _); exact deKvs_np hf n _ _
    · nofun

mutual
theorem np_ser (fo : FloatOps) : (s : Schema) → (j : Json) → NP (dynSer fo s j)
  | .bool, j | .f64, j | .schema, j => by unfold dynSer; split <;> nofun
  | .i8, j | .i16, j | .i32, j => by unfold dynSer; np_bind (getI_np _ j); exact NP_ok _
  | .u8, j | .u16, j | .u32, j | .usize, j => by unfold dynSer; np_bind (getU_np _ j); exact NP_ok _
  | .i64, j | .isize, j => by unfold dynSer; np_bind (asI64R_np j); exact NP_ok _
  | .u64, j | .u128, j => by unfold dynSer; np_bind (asU64R_np j); exact NP_ok _
  | .i128, j => by
    unfold dynSer; split
    · exact NP_ok _
    · np_bind (asU64R_np j); exact NP_ok _
  | .f32, j => by unfold dynSer; split <;> (try split) <;> nofun
  | .char, j | .string, j => serStr_np _ j
  | .byteArray, j => by
    unfold dynSer; split
    · nofun
    · np_bind (serByteElems_np _); exact NP_ok _
  | .option t, j => by
    unfold dynSer; split
    · exact NP_ok _
    · np_bind (np_ser fo t j); exact NP_ok _
  | .unit, j | .struct _ .unit, j => NP_ok _
  | .seq t, j => by
    unfold dynSer; split
    · nofun
    · np_bind (serAll_np (np_ser fo t) _); exact NP_ok _
  | .tuple ts, j | .struct _ (.tuple ts), j => by
    unfold dynSer; split
    · nofun
    · split
      · nofun
      · exact np_zip fo ts _
  | .map k v, j => by
    unfold dynSer; split
    · split
      · nofun
      · np_bind (serKvs_np (np_ser fo v) _); exact NP_ok _
    · nofun
  | .struct _ (.newtype t), j => np_ser fo t j
  | .struct _ (.struct fs), j => by
    unfold dynSer; split
    · nofun
    · split
      · nofun
      · exact np_fields fo fs _
  | .enum _ vs, j => by
    unfold dynSer; split
    · exact dynSerUnitVariant_np _ _ _
    · split
      · exact np_variant fo vs _ _ _
      · nofun
      · nofun
theorem np_zip (fo : FloatOps) : (ts : List Schema) → (xs : List Json) → NP (dynSerZip fo ts xs)
  | [], _ => NP_ok _
  | _ :: _, [] => NP_ok _
  | t :: ts, x :: xs => by
    unfold dynSerZip
    np_bind (np_ser fo t x); np_bind (np_zip fo ts xs); exact NP_ok _
theorem np_fields (fo : FloatOps) : (fs : List SField) →
    (kvs : List (List Byte × Json)) → NP (dynSerFields fo fs kvs)
  | [], _ => NP_ok _
  | .mk n t :: fs, kvs => by
    unfold dynSerFields
    split
    · nofun
    · np_bind (np_ser fo t _); np_bind (np_fields fo fs kvs); exact NP_ok _
theorem np_variant (fo : FloatOps) : (vs : List SVariant) →
    (idx : Nat) → (k : List Byte) → (v : Json) → NP (dynSerVariant fo vs idx k v)
  | [], _, _, _ => nofun
  | .mk n d :: rest, idx, k, v => by
    unfold dynSerVariant
    split
    · match d with
      | .unit => exact NP_ok _
      | .newtype t =>
        dsimp only
        np_bind (np_ser fo t v); exact NP_ok _
      | .tuple ts =>
        dsimp only; split
        · nofun
        · split
          · nofun
          · np_bind (np_zip fo ts _); exact NP_ok _
      | .struct fs =>
        dsimp only; split
        · nofun
        · split
          · nofun
          · np_bind (np_fields fo fs _); exact NP_ok _
    · exact np_variant fo rest _ _ _
end

/-- `postcard::take_from_bytes::<OwnedDataModelType>` as modelled never exhausts its fuel, on ANY
input (every nested node consumes at least one byte). -/
theorem _root_.Postcard.decOwnedBytes_total (bs : List Byte) : decOwnedBytes bs ≠ .error .panic :=
  (decOwnedBytes_fed bs).1

mutual
theorem np_de (fo : FloatOps) : (s : Schema) → (bs : List Byte) → NP (dynDe fo s bs)
  | .bool, bs => by
    unfold dynDe; np_bind (dynTakeOne_np bs)
    split
    · exact NP_ok _
    · split <;> nofun
  | .i8, bs | .u8, bs => by unfold dynDe; np_bind (dynTakeOne_np bs); exact NP_ok _
  | .i16, bs | .i32, bs | .i64, bs | .u16, bs | .u32, bs | .u64, bs | .usize, bs | .isize, bs => by
    unfold dynDe; np_bind (dynTakeVarint_np _ bs); exact NP_ok _
  | .i128, bs => by
    unfold dynDe; np_bind (dynTakeVarint_np 128 bs)
    dsimp only; split
    · nofun
    · split <;> nofun
  | .u128, bs => by
    unfold dynDe; np_bind (dynTakeVarint_np 128 bs)
    split <;> nofun
  | .f32, bs | .f64, bs => by
    unfold dynDe; np_bind (dynTakeN_np _ bs)
    split <;> nofun
  | .char, bs => by
    unfold dynDe; np_bind (dynTakeVarint_np 64 bs); np_bind (dynTakeN_np _ _)
    split
    · split <;> nofun
    · nofun
  | .string, bs => by
    unfold dynDe; np_bind (dynTakeVarint_np 64 bs); np_bind (dynTakeN_np _ _)
    split <;> nofun
  | .byteArray, bs => by
    unfold dynDe; np_bind (dynTakeVarint_np 64 bs); np_bind (dynTakeN_np _ _); exact NP_ok _
  | .option t, bs => by
    unfold dynDe; np_bind (dynTakeOne_np bs)
    split
    · exact NP_ok _
    · split
      · exact np_de fo t _
      · nofun
  | .unit, bs | .struct _ .unit, bs => NP_ok _
  | .seq t, bs => by
    unfold dynDe; np_bind (dynTakeVarint_np 64 bs)
    np_bind (deN_np (np_de fo t) _ _); exact NP_ok _
  | .tuple ts, bs | .struct _ (.tuple ts), bs => by
    unfold dynDe; np_bind (np_deList fo ts bs); exact NP_ok _
  | .map k v, bs => by
    unfold dynDe; split
    · np_bind (dynTakeVarint_np 64 bs)
      np_bind (deKvs_np (np_de fo v) _ _ _); exact NP_ok _
    · nofun
  | .struct _ (.newtype t), bs => np_de fo t bs
  | .struct _ (.struct fs), bs => by
    unfold dynDe; np_bind (np_deFields fo fs [] bs); exact NP_ok _
  | .enum _ vs, bs => by
    unfold dynDe; np_bind (dynTakeVarint_np 64 bs)
    exact np_deVariant fo vs _ _
  | .schema, bs => by
    unfold dynDe
    split
    · next heq => exact absurd heq (decOwnedBytes_total bs)
    · nofun
    · exact NP_ok _
theorem np_deList (fo : FloatOps) : (ts : List Schema) → (bs : List Byte) →
    NP (dynDeList fo ts bs)
  | [], _ => NP_ok _
  | t :: ts, bs => by
    unfold dynDeList
    np_bind (np_de fo t bs); np_bind (np_deList fo ts _); exact NP_ok _
theorem np_deFields (fo : FloatOps) : (fs : List SField) →
    (acc : List (List Byte × Json)) → (bs : List Byte) → NP (dynDeFields fo fs acc bs)
  | [], _, _ => NP_ok _
  | .mk n t :: fs, acc, bs => by
    unfold dynDeFields
    np_bind (np_de fo t bs); exact np_deFields fo fs _ _
theorem np_deVariant (fo : FloatOps) : (vs : List SVariant) →
    (k : Nat) → (bs : List Byte) → NP (dynDeVariant fo vs k bs)
  | [], _, _ => nofun
  | .mk n d :: rest, 0, bs => by
    unfold dynDeVariant
    match d with
    | .unit => exact NP_ok _
    | .newtype t =>
      dsimp only
      np_bind (np_de fo t bs); exact NP_ok _
    | .tuple ts =>
      dsimp only
      np_bind (np_deList fo ts bs); exact NP_ok _
    | .struct fs =>
      dsimp only
      np_bind (np_deFields fo fs [] bs); exact NP_ok _
  | .mk n d :: rest, k + 1, bs => np_deVariant fo rest k bs
end

/-! Witnesses on closed terms, all confirmed on the real crate. -/

section Witnesses
variable (fo : FloatOps)

/-- `Char` decodes; the empty input is an ordinary error. -/
example : dynDe fo .char [] = .error .unexpectedEnd := rfl
example : dynDe fo .char [1, 97] = .ok (.str [97], []) := rfl
example : dynSer fo .schema .null = .error .schemaMismatch := rfl
example : dynDe fo .schema [] = .error .schemaMismatch := rfl
example : dynDe fo (.option .schema) [1] = .error .schemaMismatch := rfl
example : dynSer fo (.option .schema) (.posInt 1) = .error .schemaMismatch := rfl
example : dynDe fo (.option .schema) [1, 19] = .ok (.str (kindName .unit), []) := rfl
/-- a map KEY schema is never traversed. -/
example : dynDe fo (.map .char .schema) [0] = .error .shouldSupportButDont := rfl
/-- `F32` overflow is refused by the encoder (the decoder rejects `+inf` bytes).  For any `fo` that
rounds like IEEE-754 on `1e300`. -/
example (h0 : fo.isFinite64 0x7E37E43C8800759C = true)
    (h1 : fo.f64ToF32 0x7E37E43C8800759C = 0x7F800000)       -- 1e300 as f32 = +inf
    (h2 : fo.isFinite32 0x7F800000 = false) :
    dynSer fo .f32 (.float 0x7E37E43C8800759C) = .error .schemaMismatch := by
  simp [dynSer, Json.asF64, h0, h1, h2]
/-- tuples of arity 0 re-encode. -/
example : dynSer fo (.tuple []) (.arr []) = .ok [] ∧
    dynDe fo (.tuple []) [] = .ok (.arr [], []) := ⟨rfl, rfl⟩
example : dynSer fo (.seq (.tuple [])) (.arr [.arr [], .arr []]) = .ok [2] ∧
    dynDe fo (.seq (.tuple [])) [2] = .ok (.arr [.arr [], .arr []], []) := ⟨rfl, rfl⟩
example : let s : Schema := .enum [69] [.mk [65] .unit, .mk [67] (.tuple [])]
    dynSer fo s (.obj [([67], .arr [])]) = .ok [1] ∧
    dynDe fo s [1] = .ok (.obj [([67], .arr [])], []) := ⟨rfl, rfl⟩

end Witnesses
end Postcard.Dyn

namespace Postcard
open Dyn

section Witnesses
variable (fo : FloatOps)

/-- `Option(Unit)`: any non-null JSON encodes as `[1]`, decodes as `null`, re-encodes as `[0]`. -/
theorem witness_reencode_option_unit :
    dynSer fo (.option .unit) (.posInt 5) = .ok [1] ∧
    dynDe fo (.option .unit) [1] = .ok (.null, []) ∧
    dynSer fo (.option .unit) .null = .ok [0] := ⟨rfl, rfl, rfl⟩

/-- the same below other nodes: `Option(Option(U8))` is fine, `Option(Option(Unit))` and
`Option(struct S;)` are not. -/
theorem witness_reencode_option_nested :
    dynSer fo (.option (.option .unit)) (.posInt 5) = .ok [1, 1] ∧
    dynDe fo (.option (.option .unit)) [1, 1] = .ok (.null, []) ∧
    dynSer fo (.option (.option .unit)) .null = .ok [0] ∧
    dynSer fo (.option (.struct [83] .unit)) (.bool true) = .ok [1] ∧
    dynDe fo (.option (.struct [83] .unit)) [1] = .ok (.null, []) ∧
    dynSer fo (.option (.struct [83] .unit)) .null = .ok [0] := ⟨rfl, rfl, rfl, rfl, rfl, rfl⟩

/-- (hand-built schemas only) two fields with the same name:
`{"a": 1, "b": 2}` → `[1, 1]` → `{"a": 1}` → refused (`val.len() != nvs.len()`). -/
theorem witness_reencode_dup_fields :
    let s : Schema := .struct [83] (.struct [.mk [97] .u8, .mk [97] .u8])
    dynSer fo s (.obj [([97], .posInt 1), ([98], .posInt 2)]) = .ok [1, 1] ∧
    dynDe fo s [1, 1] = .ok (.obj [([97], .posInt 1)], []) ∧
    dynSer fo s (.obj [([97], .posInt 1)]) = .error .schemaMismatch := ⟨rfl, rfl, rfl⟩

/-- the same inside a struct variant. -/
theorem witness_reencode_dup_fields_variant :
    let s : Schema := .enum [69] [.mk [86] (.struct [.mk [97] .u8, .mk [97] .u8])]
    dynSer fo s (.obj [([86], .obj [([97], .posInt 1), ([98], .posInt 2)])]) = .ok [0, 1, 1] ∧
    dynDe fo s [0, 1, 1] = .ok (.obj [([86], .obj [([97], .posInt 1)])], []) ∧
    dynSer fo s (.obj [([86], .obj [([97], .posInt 1)])]) = .error .schemaMismatch :=
  ⟨rfl, rfl, rfl⟩

/-- observation (not a violation of the stated property, which starts from an
encoder output): the decoder is not injective on maps — duplicate keys are
merged, so decode∘encode is not the identity on accepted BYTES. -/
example : dynDe fo (.map .string .u8) [2, 1, 97, 1, 1, 97, 2] =
      .ok (.obj [([97], .posInt 2)], []) ∧
    dynSer fo (.map .string .u8) (.obj [([97], .posInt 2)]) = .ok [1, 1, 97, 2] := ⟨rfl, rfl⟩

/-- observation: `from_slice_dyn` silently discards trailing bytes. -/
example : fromSliceDyn fo .u8 [1, 2, 3] = .ok (.posInt 1) := rfl

/-- observation: non-string map keys are refused in both directions. -/
example : dynSer fo (.map .u8 .u8) (.obj []) = .error .shouldSupportButDont ∧
    dynDe fo (.map .u8 .u8) [0] = .error .shouldSupportButDont := ⟨rfl, rfl⟩

end Witnesses

/-- extra assumptions on the float conversions used by re-encoding under `F32`/`F64`:
integer → f64 conversions give finite f64 bit patterns; `as f32` gives an f32 bit pattern. -/
structure FloatOk2 (fo : FloatOps) : Prop where
  u64 : ∀ n, fo.u64ToF64 n < 2 ^ 64 ∧ fo.isFinite64 (fo.u64ToF64 n) = true
  i64 : ∀ x, fo.i64ToF64 x < 2 ^ 64 ∧ fo.isFinite64 (fo.i64ToF64 x) = true
  lt32 : ∀ b, fo.f64ToF32 b < 2 ^ 32

def sfieldNames : List SField → List Name
  | [] => []
  | .mk n _ :: fs => n :: sfieldNames fs

mutual
/-- `reencOk s`: the schemas on which `dyn_reencode_partial` is proved.  Excluded, because the
code violates the property there (not repaired in /repo; witnesses above):
* `Option(t)` with `nullHazard t` (`witness_reencode_option_unit`, `…_nested`);
* a struct / struct variant with two fields of the same name (only hand-built schemas;
  `witness_reencode_dup_fields`, `…_variant`).
`decide (vs.length < 2 ^ 64)` is not an exclusion: a `Box<[OwnedVariant]>` cannot be longer.
Everything else is covered: `F32`, `Char`, `Schema`, tuples of every arity, `Map`
(non-string keys: the encoder refuses every value), `Struct`, `Enum`. -/
def reencOk : Schema → Bool
  | .option t => reencOk t && !nullHazard t
  | .seq t => reencOk t
  | .tuple ts => reencOkList ts
  | .map k v => (match k with | .string => reencOk v | _ => true)
  | .struct _ d => reencOkData d
  | .enum _ vs => decide (vs.length < 2 ^ 64) && reencOkVariants vs
  | _ => true
def reencOkList : List Schema → Bool
  | [] => true
  | t :: ts => reencOk t && reencOkList ts
def reencOkData : SData → Bool
  | .unit => true
  | .newtype t => reencOk t
  | .tuple ts => reencOkList ts
  | .struct fs => namesNodup (sfieldNames fs) && reencOkFields fs
def reencOkFields : List SField → Bool
  | [] => true
  | .mk _ t :: fs => reencOk t && reencOkFields fs
def reencOkVariants : List SVariant → Bool
  | [] => true
  | .mk _ d :: vs => reencOkData d && reencOkVariants vs
end

end Postcard

namespace Postcard.Dyn

theorem wfList_mem {fo : FloatOps} : ∀ {xs : List Json}, Json.wfList fo xs = true →
    ∀ x ∈ xs, x.wf fo = true
  | [], _, x, hx => by simp at hx
  | y :: ys, h, x, hx => by
    simp [Json.wfList] at h
    simp at hx
    rcases hx with rfl | hx
    · exact h.1
    · exact wfList_mem h.2 x hx

/-! Re-encoding, arm by arm of `ser.rs`: each `re_*` inverts the encoder's success on `j`, names the
value `j'` the decoder returns, and gets `Agree … j' bs rest` from the arm lemma of Props/C17. -/

theorem re_bool (fo : FloatOps) : RE fo .bool := .of_agree fun j bs _ _ h => by
  unfold dynSer at h
  split at h <;> cases h
  rename_i b _
  exact ⟨.bool b, Agree.bool b, fun _ _ => rfl⟩

theorem re_u8 (fo : FloatOps) : RE fo .u8 := .of_agree fun j bs _ _ h => by
  unfold dynSer at h
  split at h <;> cases h
  rename_i n hg
  exact ⟨.posInt n, Agree.u8 (getU_ok hg).2, fun _ _ => rfl⟩

theorem re_i8 (fo : FloatOps) : RE fo .i8 := .of_agree fun j bs _ _ h => by
  unfold dynSer at h
  split at h <;> cases h
  rename_i x hg
  exact ⟨Json.ofI64 x, Agree.i8 ((IntW.inRangeI_iff .w8 x).2 (getI_ok hg).2),
    fun _ _ => ofI64_not_null x⟩

theorem re_i128 (fo : FloatOps) : RE fo .i128 := .of_agree fun j bs _ hwf h => by
  unfold dynSer at h
  split at h
  · rename_i x hj
    cases h
    have h63 := asI64_range hwf hj
    rw [dynVarint_eq, dynZigzag_eq]
    exact ⟨_, Agree.i128 h63.1 (by omega), fun _ _ => ofI64_not_null x⟩
  · split at h <;> cases h
    rename_i n hn
    have hlt := asU64_range hwf (asU64R_ok hn)
    rw [dynVarint_eq, dynZigzag_eq]
    exact ⟨_, Agree.i128 (x := (n : Int)) (by omega) (by omega), fun _ _ => ofI64_not_null _⟩

theorem asF64_finite {fo : FloatOps} (h2 : FloatOk2 fo) {j : Json} {b : Nat}
    (hwf : j.wf fo = true) (hj : j.asF64 fo = some b) : b < 2 ^ 64 ∧ fo.isFinite64 b = true := by
  cases j <;> cases hj
  · exact h2.u64 _
  · exact h2.i64 _
  · simpa [Json.wf] using hwf

theorem re_f64 (fo : FloatOps) (h2 : FloatOk2 fo) : RE fo .f64 :=
  .of_agree fun j bs _ hwf h => by
  unfold dynSer at h
  split at h <;> cases h
  rename_i b hj
  have hb := asF64_finite h2 hwf hj
  exact ⟨_, Agree.f64 hb.1 hb.2,
    fun _ _ => by simp [Json.ofF64, Json.numFromF64, hb.2, Json.isNull]⟩

theorem re_f32 (fo : FloatOps) (h1 : FloatOk fo) (h2 : FloatOk2 fo) : RE fo .f32 :=
  .of_agree fun j bs _ hwf h => by
  unfold dynSer at h
  split at h
  · cases h
  · rename_i b hj
    have hb := asF64_finite h2 hwf hj
    split at h <;> cases h
    rename_i hc
    -- the encoder refuses a finite `b` whose `as f32` is not finite, and `b` is finite
    have hfin : fo.isFinite32 (fo.f64ToF32 b) = true := by simpa [hb.2] using hc
    exact ⟨_, Agree.f32 h1 (h2.lt32 b) hfin, fun _ _ => by simp [Json.ofF32, hfin, Json.isNull]⟩

/-- `String` and `Char` share the encoder arm `serStr`; the decoder of `Char` checks `oneScalar`
too. -/
theorem re_str (fo : FloatOps) (s : Schema) (c : Bool) (hs : ∀ j, dynSer fo s j = serStr c j)
    (ha : ∀ u rest, utf8Valid u = true → u.length < 2 ^ 64 → (c = true → oneScalar u = true) →
      Agree fo s (.str u) (encVarint 64 u.length ++ u) rest) : RE fo s :=
  .of_agree fun j bs _ hwf h => by
  rw [hs] at h
  simp only [serStr] at h
  split at h
  · cases h
  · rename_i u hj
    cases asStr_eq hj
    simp [Json.wf] at hwf
    split at h
    · cases h
    · rename_i hc
      cases h
      exact ⟨.str u, dynVarint_eq _ _ ▸ ha u _ hwf.1 hwf.2 (by intro hc'; simpa [hc'] using hc),
        fun _ _ => rfl⟩

theorem re_byteArray (fo : FloatOps) : RE fo .byteArray := .of_agree fun j bs _ hwf h => by
  unfold dynSer at h
  split at h
  · cases h
  rename_i xs hj
  split at h <;> cases h
  rename_i body hb
  cases asArray_eq hj
  simp [Json.wf] at hwf
  have hl := serByteElems_length hb
  rw [← hl, dynVarint_eq]
  exact ⟨_, Agree.byteArray (hl ▸ hwf.1), fun _ _ => rfl⟩

theorem re_option (fo : FloatOps) (t : Schema) (hn : nullHazard t = false) (ht : RE fo t) :
    RE fo (.option t) := .of_agree fun j bs rest hwf h => by
  unfold dynSer at h
  split at h
  · next hnull => cases h; exact ⟨.null, ⟨rfl, rfl⟩, fun _ hj => nomatch hnull.symm.trans hj⟩
  · rename_i hnull
    split at h <;> cases h
    rename_i body hb
    obtain ⟨j', hd, hs, hnn⟩ := ht j body rest hwf hb
    -- had the payload come back as `null`, the encoder would write `None` for it: `nullHazard`
    have hj' : j'.isNull = false := hnn hn (by simpa using hnull)
    exact ⟨j', Agree.option_some ⟨hs, hd⟩ hj', fun _ _ => hj'⟩

theorem re_all (fo : FloatOps) (t : Schema) (ht : RE fo t) :
    ∀ (xs : List Json) (bs rest : List Byte), Json.wfList fo xs = true →
    serAll (dynSer fo t) xs = .ok bs → ∃ js, AgreeAll fo t xs.length js bs rest
  | [] => fun bs rest _ h => by cases h; exact ⟨[], rfl, rfl, rfl⟩
  | x :: xs => fun bs rest hw h => by
    simp only [serAll] at h
    split at h
    · cases h
    split at h <;> cases h
    rename_i _ a ha _ b hb
    simp [Json.wfList] at hw
    obtain ⟨j', hd, hs, _⟩ := ht x a (b ++ rest) hw.1 ha
    obtain ⟨js, hjs⟩ := re_all fo t ht xs b rest hw.2 hb
    exact ⟨j' :: js, all_cons ⟨hs, hd⟩ hjs⟩

theorem re_seq (fo : FloatOps) (t : Schema) (ht : RE fo t) : RE fo (.seq t) :=
  .of_agree fun j bs rest hwf h => by
  unfold dynSer at h
  split at h
  · cases h
  rename_i xs hj
  split at h <;> cases h
  rename_i body hb
  cases asArray_eq hj
  simp [Json.wf] at hwf
  obtain ⟨js, hjs⟩ := re_all fo t ht xs body rest hwf.2 hb
  exact ⟨.arr js, dynVarint_eq _ _ ▸ Agree.seq hjs rfl hwf.1, fun _ _ => rfl⟩

/-- the loop of a tuple: `∃ js, AgreeZip fo ts js bs rest`, spelled out. -/
def REL (fo : FloatOps) (ts : List Schema) : Prop :=
  ∀ (xs : List Json) (bs rest : List Byte), Json.wfList fo xs = true →
    dynSerZip fo ts xs = .ok bs → xs.length = ts.length →
    ∃ js, dynDeList fo ts (bs ++ rest) = .ok (js, rest) ∧ dynSerZip fo ts js = .ok bs ∧
      js.length = ts.length

theorem REL_cons {fo : FloatOps} {t : Schema} {ts : List Schema} (ht : RE fo t)
    (hts : REL fo ts) : REL fo (t :: ts) := by
  intro xs bs rest hw hs hl
  match xs, hw, hs, hl with
  | [], _, _, hl => simp at hl
  | x :: xs, hw, hs, hl =>
    simp only [dynSerZip] at hs
    split at hs
    · cases hs
    split at hs <;> cases hs
    rename_i _ a ha _ b hb
    simp [Json.wfList] at hw
    simp at hl
    obtain ⟨j', hd, hs', _⟩ := ht x a (b ++ rest) hw.1 ha
    obtain ⟨js, hds, hss, hjl⟩ := hts xs b rest hw.2 hb hl
    have A := zip_cons ⟨hs', hd⟩ ⟨hjl.symm, hss, hds⟩
    exact ⟨j' :: js, A.2.2, A.2.1, A.1.symm⟩

/-- the tuple arms (every arity) from `REL`. -/
theorem re_of_rel (fo : FloatOps) {s : Schema} {ts : List Schema} (hrel : REL fo ts)
    (hs : ∀ j, dynSer fo s j = match j.asArray with
      | none => .error .schemaMismatch
      | some xs =>
        if xs.length ≠ ts.length then .error .schemaMismatch else dynSerZip fo ts xs)
    (ha : ∀ js bs rest, AgreeZip fo ts js bs rest → Agree fo s (.arr js) bs rest) : RE fo s :=
  .of_agree fun j bs rest hwf h => by
  rw [hs] at h
  split at h
  · cases h
  rename_i xs hj
  cases asArray_eq hj
  simp [Json.wf] at hwf
  split at h
  · cases h
  rename_i hlen
  obtain ⟨js, hdl, hsz, hjl⟩ := hrel xs bs rest hwf.2 h (Decidable.not_not.1 hlen)
  exact ⟨.arr js, ha js bs rest ⟨hjl.symm, hsz, hdl⟩, fun _ _ => rfl⟩

theorem re_kvs (fo : FloatOps) (t : Schema) (ht : RE fo t) :
    ∀ (kvs : List (List Byte × Json)) (bs rest : List Byte),
    Json.wfKvs fo kvs = true → serKvs (dynSer fo t) kvs = .ok bs →
    ∃ kvs', AgreeKvs fo t kvs.length kvs' bs rest ∧ keysOf kvs' = keysOf kvs
  | [] => fun bs rest _ h => by cases h; exact ⟨[], ⟨rfl, rfl, fun _ => rfl⟩, rfl⟩
  | (k, v) :: more => fun bs rest hw h => by
    simp only [serKvs] at h
    split at h
    · cases h
    split at h <;> cases h
    rename_i _ a ha _ b hb
    simp [Json.wfKvs] at hw
    obtain ⟨⟨⟨hk1, hk2⟩, hv⟩, hmore⟩ := hw
    obtain ⟨v', hd, hs, _⟩ := ht v a (b ++ rest) hv ha
    obtain ⟨kvs', hjs, hkeys⟩ := re_kvs fo t ht more b rest hmore hb
    refine ⟨(k, v') :: kvs', ?_, congrArg (k :: ·) hkeys⟩
    rw [dynVarint_eq, List.append_assoc _ a b]
    exact kvs_cons hk1 hk2 ⟨hs, hd⟩ hjs

theorem re_map (fo : FloatOps) (t : Schema) (ht : RE fo t) : RE fo (.map .string t) :=
  .of_agree fun j bs rest hwf h => by
  unfold dynSer at h
  dsimp only at h
  split at h
  · cases h
  rename_i kvs hj
  split at h <;> cases h
  rename_i body hb
  cases asObject_eq hj
  simp [Json.wf] at hwf
  obtain ⟨⟨hlen, hsorted⟩, hwk⟩ := hwf
  obtain ⟨kvs', hjs, hkeys⟩ := re_kvs fo t ht kvs body rest hwk hb
  -- the decoded entries carry the keys of `kvs`, ascending: inserting them rebuilds the list
  have hsorted' : keysPairwiseLt kvs' = true :=
    (keysPairwiseLt_iff _).2 (hkeys ▸ (keysPairwiseLt_iff _).1 hsorted)
  exact ⟨_, dynVarint_eq _ _ ▸ Agree.map hjs hsorted' rfl hlen, fun _ _ => rfl⟩

/-- the loop over named fields: `∃ vs', AgreeFields fo fs (sfieldNames fs) vs' bs rest acc`, spelled
out. -/
def REF (fo : FloatOps) (fs : List SField) : Prop :=
  ∀ (kvs : List (List Byte × Json)) (bs rest : List Byte) (acc : List (List Byte × Json)),
    Json.wfKvs fo kvs = true → dynSerFields fo fs kvs = .ok bs →
    ∃ vs' : List Json, vs'.length = fs.length ∧
      dynDeFields fo fs acc (bs ++ rest) =
        .ok (objInsertAll acc (zipNames (sfieldNames fs) vs'), rest) ∧
      ∀ obj, GetsAll obj (sfieldNames fs) vs' → dynSerFields fo fs obj = .ok bs

theorem sfieldNames_length : ∀ fs : List SField, (sfieldNames fs).length = fs.length
  | [] => rfl
  | .mk _ _ :: fs => by simp [sfieldNames, sfieldNames_length fs]

theorem REF_cons {fo : FloatOps} {t : Schema} {fs : List SField} (n : Name) (ht : RE fo t)
    (hfs : REF fo fs) : REF fo (.mk n t :: fs) := by
  intro kvs bs rest acc hw hs
  simp only [dynSerFields] at hs
  split at hs
  · cases hs
  rename_i v hget
  split at hs
  · cases hs
  rename_i a ha
  split at hs <;> cases hs
  rename_i b hb
  obtain ⟨v', hd, hs', _⟩ := ht v a (b ++ rest) (wfKvs_get hw hget) ha
  obtain ⟨vs', hl, hds, hss⟩ := hfs kvs b rest (objInsert n v' acc) hw hb
  have A := fields_cons (name := n) ⟨hs', hd⟩
    ⟨⟨(sfieldNames_length fs).trans hl.symm, hl.symm⟩, hss, hds⟩
  exact ⟨v' :: vs', A.1.2.symm, A.2.2, A.2.1⟩

theorem re_struct (fo : FloatOps) (nm : Name) (fs : List SField)
    (hn : namesNodup (sfieldNames fs) = true) (hf : REF fo fs) :
    RE fo (.struct nm (.struct fs)) := .of_agree fun j bs rest hwf h => by
  unfold dynSer at h
  split at h
  · cases h
  rename_i kvs hj
  cases asObject_eq hj
  simp [Json.wf] at hwf
  split at h
  · cases h
  obtain ⟨vs', hl, hd, hs⟩ := hf kvs bs rest [] hwf.2 h
  exact ⟨_, Agree.struct (nm := nm) ⟨⟨(sfieldNames_length fs).trans hl.symm, hl.symm⟩, hs, hd⟩ hn,
    fun _ _ => rfl⟩

def RED (fo : FloatOps) : SData → Prop
  | .unit => True
  | .newtype t => RE fo t
  | .tuple ts => REL fo ts
  | .struct fs => namesNodup (sfieldNames fs) = true ∧ REF fo fs

/-- `Struct{data}` under any name.  An enum variant's payload is written and read as one
(`serVariant_struct`, `deVariant_struct`), so `re_enum` takes its variants from here too. -/
theorem RED_struct {fo : FloatOps} (nm : Name) : (d : SData) → RED fo d → RE fo (.struct nm d)
  | .unit, _ => fun _ _ _ _ hs => by cases hs; exact ⟨.null, rfl, rfl, nofun⟩
  | .newtype _, h => h
  | .tuple ts, h => re_of_rel fo h (fun _ => rfl) fun _ _ _ => Agree.tuple
  | .struct fs, h => re_struct fo nm fs h.1 h.2

theorem re_enum (fo : FloatOps) (nm : Name) (vs : List SVariant) (hlen : vs.length < 2 ^ 64)
    (hv : ∀ name i d, findVariant vs name 0 = some (i, d) → RE fo (.struct nm d)) :
    RE fo (.enum nm vs) := .of_agree fun j bs rest hwf h => by
  unfold dynSer at h
  split at h
  · rename_i s hj
    cases asStr_eq hj
    obtain ⟨i, hfind, hi, rfl⟩ := dynSerUnitVariant_ok h
    exact ⟨.str s, dynVarint_eq _ _ ▸ Agree.unitVariant64 hfind (Nat.lt_trans hi hlen),
      fun _ _ => rfl⟩
  · split at h
    · rename_i k v hj
      cases asObject_eq hj
      simp [Json.wf, Json.wfKvs] at hwf
      obtain ⟨i, d, a, hfind, hi, ha, rfl⟩ := dynSerVariant_ok fo nm h
      have hi := Nat.lt_trans hi hlen
      rw [dynVarint_eq]
      by_cases hu : d = .unit
      · -- a unit variant written as `{name: …}` comes back as the string `name`
        subst hu
        cases ha
        exact ⟨.str k, List.append_nil _ ▸ Agree.unitVariant64 hfind hi, fun _ _ => rfl⟩
      · obtain ⟨v', hd', hs', _⟩ := hv k i d hfind v a rest hwf.2.2 ha
        exact ⟨.obj [(k, v')], Agree.variant64 hfind hi hu ⟨hs', hd'⟩, fun _ _ => rfl⟩
    · cases h
    · cases h

/- What `serde_json::from_value::<OwnedDataModelType>` accepts (`schemaOfJson` and its nine
companions) is a well-formed schema (`Schema.wf`: names valid UTF-8, lengths below `2^64`) when the
`Value` it reads is one (`Json.wf`); `Agree.schema` needs this of the schema the encoder found.

Only the recursion argument is matched; the hypotheses sit behind `fun`, so that well-founded
recursion packs one argument per member and the contexts of the decreasing goals stay small.
`decreasing_by` is given because the default tactic is very slow on them; in the long arms
`Option.some.inj h` stands where `cases h` would do, because the terms `cases` builds make the
recursion slower to compile. -/
mutual
theorem wf_schema (fo : FloatOps) : (j : Json) → j.wf fo = true → ∀ s, schemaOfJson j = some s →
    s.wf = true
  | j => fun hw s h => by
   unfold schemaOfJson at h
   split at h
   · split at h                                          -- `.str s`: a unit kind
     · cases h
     · exact schemaOfUnitKind_wf h
   · rename_i k v                                        -- `.obj [(k, v)]`, by `kindOfName k`
     have hv : v.wf fo = true := by simp [Json.wf, Json.wfKvs] at hw; exact hw.2.2
     split at h
     · cases h
     · split at h                                        -- Option
       · rename_i t ht; obtain rfl := Option.some.inj h
         simpa [Schema.wf] using wf_schema fo v hv t ht
       · cases h
     · split at h                                        -- Seq
       · rename_i t ht; obtain rfl := Option.some.inj h
         simpa [Schema.wf] using wf_schema fo v hv t ht
       · cases h
     · split at h                                        -- Tuple
       · rename_i xs
         split at h
         · rename_i ts hts; obtain rfl := Option.some.inj h
           simp [Json.wf] at hv
           have := wf_list fo xs hv.2 ts hts
           simp [Schema.wf, this.1, this.2, hv.1]
         · cases h
       · cases h
     · split at h                                        -- Map
       · rename_i kvs
         simp [Json.wf] at hv
         split at h
         · rename_i a b ha hb; obtain rfl := Option.some.inj h
           simp [Schema.wf, wf_sget fo kvs hv.2 _ a ha, wf_sget fo kvs hv.2 _ b hb]
         · cases h
       · cases h
     · split at h                                        -- Struct
       · rename_i kvs
         simp [Json.wf] at hv
         split at h
         · rename_i n d hn hd; obtain rfl := Option.some.inj h
           simp [Schema.wf, nameGet_ok hv.2 hn, wf_dget fo kvs hv.2 _ d hd]
         · cases h
       · cases h
     · split at h                                        -- Enum
       · rename_i kvs
         simp [Json.wf] at hv
         split at h
         · rename_i n vs hn hvs; obtain rfl := Option.some.inj h
           have := wf_vget fo kvs hv.2 _ vs hvs
           simp [Schema.wf, nameGet_ok hv.2 hn, this.1, this.2]
         · cases h
       · cases h
     · split at h                                        -- a unit kind with payload `null`
       · exact schemaOfUnitKind_wf h
       · cases h
   · cases h
termination_by j => sizeOf j
decreasing_by all_goals (subst_vars; simp +arith)
theorem wf_list (fo : FloatOps) : (xs : List Json) → Json.wfList fo xs = true → ∀ ts,
    schemaOfJsonList xs = some ts → Schema.wfList ts = true ∧ ts.length = xs.length
  | [] => fun _ ts h => by cases h; exact ⟨rfl, rfl⟩
  | x :: xs => fun hw ts h => by
    simp [Json.wfList] at hw
    unfold schemaOfJsonList at h
    split at h
    · rename_i t ts' ht hts; obtain rfl := Option.some.inj h
      have := wf_list fo xs hw.2 ts' hts
      simp [Schema.wfList, wf_schema fo x hw.1 t ht, this.1, this.2]
    · cases h
termination_by xs => sizeOf xs
decreasing_by all_goals (subst_vars; simp +arith)
theorem wf_sget (fo : FloatOps) : (kvs : List (List Byte × Json)) → Json.wfKvs fo kvs = true →
    ∀ key s, schemaGet key kvs = some s → s.wf = true
  | [] => fun _ _ _ h => nomatch h
  | (k, v) :: rest => fun hw key s h => by
    simp [Json.wfKvs] at hw
    unfold schemaGet at h
    split at h
    · exact wf_schema fo v hw.1.2 s h
    · exact wf_sget fo rest hw.2 key s h
termination_by kvs => sizeOf kvs
decreasing_by all_goals (subst_vars; simp +arith)
theorem wf_data (fo : FloatOps) : (j : Json) → j.wf fo = true → ∀ d, dataOfJson j = some d →
    d.wf = true
  | j => fun hw d h => by
   unfold dataOfJson at h
   split at h
   · split at h                                          -- `.str s`: Unit
     · obtain rfl := Option.some.inj h; rfl
     · cases h
   · rename_i k v                                        -- `.obj [(k, v)]`, by `dataKindOfName k`
     have hv : v.wf fo = true := by simp [Json.wf, Json.wfKvs] at hw; exact hw.2.2
     split at h
     · cases h
     · split at h                                        -- Unit with payload `null`
       · obtain rfl := Option.some.inj h; rfl
       · cases h
     · split at h                                        -- Newtype
       · rename_i t ht; obtain rfl := Option.some.inj h
         simpa [SData.wf] using wf_schema fo v hv t ht
       · cases h
     · split at h                                        -- Tuple
       · rename_i xs
         split at h
         · rename_i ts hts; obtain rfl := Option.some.inj h
           simp [Json.wf] at hv
           have := wf_list fo xs hv.2 ts hts
           simp [SData.wf, this.1, this.2, hv.1]
         · cases h
       · cases h
     · split at h                                        -- Struct
       · rename_i xs
         split at h
         · rename_i fs hfs; obtain rfl := Option.some.inj h
           simp [Json.wf] at hv
           have := wf_fields fo xs hv.2 fs hfs
           simp [SData.wf, this.1, this.2, hv.1]
         · cases h
       · cases h
   · cases h
termination_by j => sizeOf j
decreasing_by all_goals (subst_vars; simp +arith)
theorem wf_dget (fo : FloatOps) : (kvs : List (List Byte × Json)) → Json.wfKvs fo kvs = true →
    ∀ key d, dataGet key kvs = some d → d.wf = true
  | [] => fun _ _ _ h => nomatch h
  | (k, v) :: rest => fun hw key d h => by
    simp [Json.wfKvs] at hw
    unfold dataGet at h
    split at h
    · exact wf_data fo v hw.1.2 d h
    · exact wf_dget fo rest hw.2 key d h
termination_by kvs => sizeOf kvs
decreasing_by all_goals (subst_vars; simp +arith)
theorem wf_field (fo : FloatOps) : (j : Json) → j.wf fo = true → ∀ f, fieldOfJson j = some f →
    SField.wfList [f] = true
  | j => fun hw f h => by
   unfold fieldOfJson at h
   split at h
   · rename_i n t                                        -- the array `[name, ty]`
     simp [Json.wf, Json.wfList] at hw
     split at h
     · rename_i ty hty; obtain rfl := Option.some.inj h
       simp [SField.wfList, nameOk, hw.1.1, hw.1.2, wf_schema fo t hw.2 ty hty]
     · cases h
   · rename_i kvs                                        -- the object `{name, ty}`
     simp [Json.wf] at hw
     split at h
     · rename_i n ty hn hty; obtain rfl := Option.some.inj h
       simp [SField.wfList, nameGet_ok hw.2 hn, wf_sget fo kvs hw.2 _ ty hty]
     · cases h
   · cases h
termination_by j => sizeOf j
decreasing_by all_goals (subst_vars; simp +arith)
theorem wf_fields (fo : FloatOps) : (xs : List Json) → Json.wfList fo xs = true → ∀ fs,
    fieldsOfJsonList xs = some fs → SField.wfList fs = true ∧ fs.length = xs.length
  | [] => fun _ fs h => by cases h; exact ⟨rfl, rfl⟩
  | x :: xs => fun hw fs h => by
    simp [Json.wfList] at hw
    unfold fieldsOfJsonList at h
    split at h
    · rename_i f fs' hf hfs; obtain rfl := Option.some.inj h
      have := wf_fields fo xs hw.2 fs' hfs
      have h1 := wf_field fo x hw.1 f hf
      obtain ⟨n, t⟩ := f
      simp [SField.wfList] at h1
      simp [SField.wfList, h1, this.1, this.2]
    · cases h
termination_by xs => sizeOf xs
decreasing_by all_goals (subst_vars; simp +arith)
theorem wf_variant (fo : FloatOps) : (j : Json) → j.wf fo = true → ∀ v, variantOfJson j = some v →
    SVariant.wfList [v] = true
  | j => fun hw f h => by
   unfold variantOfJson at h
   split at h
   · rename_i n d                                        -- the array `[name, data]`
     simp [Json.wf, Json.wfList] at hw
     split at h
     · rename_i data hd; obtain rfl := Option.some.inj h
       simp [SVariant.wfList, nameOk, hw.1.1, hw.1.2, wf_data fo d hw.2 data hd]
     · cases h
   · rename_i kvs                                        -- the object `{data, name}`
     simp [Json.wf] at hw
     split at h
     · rename_i n data hn hd; obtain rfl := Option.some.inj h
       simp [SVariant.wfList, nameGet_ok hw.2 hn, wf_dget fo kvs hw.2 _ data hd]
     · cases h
   · cases h
termination_by j => sizeOf j
decreasing_by all_goals (subst_vars; simp +arith)
theorem wf_variants (fo : FloatOps) : (xs : List Json) → Json.wfList fo xs = true → ∀ vs,
    variantsOfJsonList xs = some vs → SVariant.wfList vs = true ∧ vs.length = xs.length
  | [] => fun _ vs h => by cases h; exact ⟨rfl, rfl⟩
  | x :: xs => fun hw vs h => by
    simp [Json.wfList] at hw
    unfold variantsOfJsonList at h
    split at h
    · rename_i v vs' hv hvs; obtain rfl := Option.some.inj h
      have := wf_variants fo xs hw.2 vs' hvs
      have h1 := wf_variant fo x hw.1 v hv
      obtain ⟨n, d⟩ := v
      simp [SVariant.wfList] at h1
      simp [SVariant.wfList, h1, this.1, this.2]
    · cases h
termination_by xs => sizeOf xs
decreasing_by all_goals (subst_vars; simp +arith)
theorem wf_vget (fo : FloatOps) : (kvs : List (List Byte × Json)) → Json.wfKvs fo kvs = true →
    ∀ key vs, variantsGet key kvs = some vs → SVariant.wfList vs = true ∧ vs.length < 2 ^ 64
  | [] => fun _ _ _ h => nomatch h
  | (k, v) :: rest => fun hw key vs h => by
    simp [Json.wfKvs] at hw
    unfold variantsGet at h
    split at h
    · split at h
      · rename_i xs
        have hv := hw.1.2
        simp [Json.wf] at hv
        have := wf_variants fo xs hv.2 vs h
        exact ⟨this.1, by rw [this.2]; exact hv.1⟩
      · cases h
    · exact wf_vget fo rest hw.2 key vs h
termination_by kvs => sizeOf kvs
decreasing_by all_goals (subst_vars; simp +arith)
end

theorem re_schema (fo : FloatOps) : RE fo .schema := .of_agree fun j bs _ hwf h => by
  unfold dynSer at h
  split at h <;> cases h
  rename_i s hs
  exact ⟨_, Agree.schema (wf_schema fo j hwf s hs), fun _ _ => jsonOfSchema_not_null s⟩

mutual
theorem re_val (fo : FloatOps) (h1 : FloatOk fo) (h2 : FloatOk2 fo) :
    (s : Schema) → reencOk s = true → RE fo s
  | .bool, _ => re_bool fo
  | .i8, _ => re_i8 fo
  | .u8, _ => re_u8 fo
  | .i16, _ => (leaf_I .w16 (by decide) (.ofGetI (by decide)) (fun _ => rfl) (fun _ => rfl)).2
  | .i32, _ => (leaf_I .w32 (by decide) (.ofGetI (by decide)) (fun _ => rfl) (fun _ => rfl)).2
  | .i64, _ | .isize, _ => (leaf_I .w64 (by decide) .ofAsI64R (fun _ => rfl) (fun _ => rfl)).2
  | .i128, _ => re_i128 fo
  | .u16, _ => (leaf_getU widthOk16 (fun _ => rfl) (fun _ => rfl)).2
  | .u32, _ => (leaf_getU widthOk32 (fun _ => rfl) (fun _ => rfl)).2
  | .usize, _ => (leaf_getU widthOk64 (fun _ => rfl) (fun _ => rfl)).2
  | .u64, _ => (leaf_asU widthOk64 (by decide) (fun _ => rfl)
      (fun bs n rest h _ => by rw [dynDe, h])).2
  | .u128, _ => (leaf_asU widthOk128 (by decide) (fun _ => rfl)
      (fun bs n rest h hn => by rw [dynDe, h]; simp [hn])).2
  | .f32, _ => re_f32 fo h1 h2
  | .f64, _ => re_f64 fo h2
  | .char, _ => re_str fo .char true (fun _ => rfl) fun _ _ hu hl hc => Agree.char hu hl (hc rfl)
  | .string, _ => re_str fo .string false (fun _ => rfl) fun _ _ hu hl _ => Agree.string hu hl
  | .byteArray, _ => re_byteArray fo
  | .schema, _ => re_schema fo
  | .option t, h => by
    simp [reencOk] at h
    exact re_option fo t h.2 (re_val fo h1 h2 t h.1)
  | .unit, _ => fun _ _ _ _ hs => by cases hs; exact ⟨.null, rfl, rfl, nofun⟩
  | .seq t, h => re_seq fo t (re_val fo h1 h2 t h)
  | .tuple ts, h => re_of_rel fo (re_list fo h1 h2 ts h) (fun _ => rfl) fun _ _ _ => Agree.tuple
  | .map k v, h => by
    intro j bs rest hwf hs
    unfold dynSer at hs
    split at hs
    · exact re_map fo v (re_val fo h1 h2 v h) j bs rest hwf hs
    · cases hs                          -- a key schema other than `String`: every value is refused
  | .struct nm d, h => RED_struct nm d (re_data fo h1 h2 d h)
  | .enum nm vs, h => by
    simp [reencOk] at h
    exact re_enum fo nm vs h.1 fun name i d hf =>
      RED_struct nm d (re_variants fo h1 h2 vs h.2 name 0 i d hf)
theorem re_list (fo : FloatOps) (h1 : FloatOk fo) (h2 : FloatOk2 fo) :
    (ts : List Schema) → reencOkList ts = true → REL fo ts
  | [], _ => fun _ _ _ _ hs _ => by cases hs; exact ⟨[], rfl, rfl, rfl⟩
  | t :: ts, h => by
    simp [reencOkList] at h
    exact REL_cons (re_val fo h1 h2 t h.1) (re_list fo h1 h2 ts h.2)
theorem re_fields (fo : FloatOps) (h1 : FloatOk fo) (h2 : FloatOk2 fo) :
    (fs : List SField) → reencOkFields fs = true → REF fo fs
  | [], _ => fun _ _ _ _ _ hs => by cases hs; exact ⟨[], rfl, rfl, fun _ _ => rfl⟩
  | .mk n t :: fs, h => by
    simp [reencOkFields] at h
    exact REF_cons n (re_val fo h1 h2 t h.1) (re_fields fo h1 h2 fs h.2)
theorem re_data (fo : FloatOps) (h1 : FloatOk fo) (h2 : FloatOk2 fo) :
    (d : SData) → reencOkData d = true → RED fo d
  | .unit, _ => trivial
  | .newtype t, h => re_val fo h1 h2 t h
  | .tuple ts, h => re_list fo h1 h2 ts h
  | .struct fs, h => by
    simp [reencOkData] at h
    exact ⟨h.1, re_fields fo h1 h2 fs h.2⟩
theorem re_variants (fo : FloatOps) (h1 : FloatOk fo) (h2 : FloatOk2 fo) :
    (vs : List SVariant) → reencOkVariants vs = true → ∀ (name : Name) (k i : Nat) (d : SData),
      findVariant vs name k = some (i, d) → RED fo d
  | [], _, _, _, _, _, hf => nomatch hf
  | .mk n d' :: rest, h, name, k, i, d, hf => by
    simp [reencOkVariants] at h
    simp only [findVariant] at hf
    split at hf
    · cases hf; exact re_data fo h1 h2 d' h.1
    · exact re_variants fo h1 h2 rest h.2 name (k + 1) i d hf
end

end Postcard.Dyn

namespace Postcard
open Dyn

/-- C18 totality, FULL: for EVERY schema, JSON value (even ill-formed) and byte string, neither
direction panics.  (The model has no `todo!()` arm; its only `.panic` is the fuel of `decOwned`,
unreachable by `decOwnedBytes_total`.)

NOTE (finding outside the model, not repaired in /repo): the statement is relative to an unbounded
stack.  On the real crate the `Schema` kind decodes a schema VALUE recursively
(`postcard::take_from_bytes::<OwnedDataModelType>`, `serde_json::to_value`, `Drop`), without
a depth limit: `from_slice_dyn(&Schema, [18; N] ++ [0])` (N nested `Option`s) aborts the
process with a stack overflow for N ≈ 4.5k (debug) / 30k (release) on an 8 MiB stack. -/
theorem dyn_total (fo : FloatOps) (s : Schema) (j : Json) (bs : List Byte) :
    dynSer fo s j ≠ .error .panic ∧ dynDe fo s bs ≠ .error .panic :=
  ⟨np_ser fo s j, np_de fo s bs⟩

theorem dyn_ser_total (fo : FloatOps) (s : Schema) (j : Json) : dynSer fo s j ≠ .error .panic :=
  np_ser fo s j

theorem dyn_de_total (fo : FloatOps) (s : Schema) (bs : List Byte) :
    dynDe fo s bs ≠ .error .panic :=
  np_de fo s bs

theorem fromSliceDyn_total (fo : FloatOps) (s : Schema) (bs : List Byte) :
    fromSliceDyn fo s bs ≠ .error .panic := by
  unfold fromSliceDyn
  np_bind (np_de fo s bs); exact NP_ok _

theorem toStdvecDyn_total (fo : FloatOps) (s : Schema) (j : Json) :
    toStdvecDyn fo s j ≠ .error .panic := np_ser fo s j

/-- `dyn_reencode_partial` with trailing bytes: the decoder consumes exactly the encoder's
output. -/
theorem dyn_reencode_partial_rest (fo : FloatOps) (h1 : FloatOk fo) (h2 : FloatOk2 fo) (s : Schema)
    (j : Json) (bs rest : List Byte) (hs : reencOk s = true) (hw : j.wf fo = true)
    (h : dynSer fo s j = .ok bs) :
    ∃ j', dynDe fo s (bs ++ rest) = .ok (j', rest) ∧ dynSer fo s j' = .ok bs := by
  obtain ⟨j', hd, hs', _⟩ := re_val fo h1 h2 s hs j bs rest hw h
  exact ⟨j', hd, hs'⟩

/-- C18 re-encoding on the domain `reencOk s` (see its doc comment: everything except
`Option(t)` with `nullHazard t` and structs with duplicate field names — both refuted on
the full domain, `dyn_reencode_false`), for well-formed JSON (`Json.wf`: what a
`serde_json::Value` can be) and float conversions that round-trip f32 → f64 → f32, send
integers to finite f64s and `as f32` to f32 bit patterns.  Includes the `Schema` kind. -/
theorem dyn_reencode_partial (fo : FloatOps) (h1 : FloatOk fo) (h2 : FloatOk2 fo) (s : Schema)
    (j : Json) (bs : List Byte) (hs : reencOk s = true) (hw : j.wf fo = true)
    (h : dynSer fo s j = .ok bs) :
    ∃ j', dynDe fo s bs = .ok (j', []) ∧ dynSer fo s j' = .ok bs := by
  simpa using dyn_reencode_partial_rest fo h1 h2 s j bs [] hs hw h

/-- a `FloatOps` satisfying `FloatOk` and `FloatOk2` (non-vacuity; used by the refutations). -/
def foOk : FloatOps :=
  ⟨fun b => b % 2 ^ 32, id, fun _ => 0, fun _ => 0, fun _ => true, fun _ => true⟩
theorem foOk_ok : FloatOk foOk := ⟨fun _ hb _ => Nat.mod_eq_of_lt hb, fun _ _ _ => rfl⟩
theorem foOk_ok2 : FloatOk2 foOk :=
  ⟨fun _ => ⟨Nat.two_pow_pos 64, rfl⟩, fun _ => ⟨Nat.two_pow_pos 64, rfl⟩,
    fun _ => Nat.mod_lt _ (Nat.two_pow_pos 32)⟩

/-- Not repaired in /repo: the full re-encoding statement is false — `Option(Unit)` with the JSON
value `5` (`[1]` decodes to `null`, which re-encodes to `[0]`). -/
theorem dyn_reencode_false :
    ¬ (∀ (fo : FloatOps), FloatOk fo → FloatOk2 fo → ∀ (s : Schema) (j : Json) (bs : List Byte),
        j.wf fo = true → dynSer fo s j = .ok bs →
        ∃ j', dynDe fo s bs = .ok (j', []) ∧ dynSer fo s j' = .ok bs) := by
  intro h
  obtain ⟨j', hd, hs⟩ := h foOk foOk_ok foOk_ok2 (.option .unit) (.posInt 5) [1] (by decide) rfl
  cases (witness_reencode_option_unit foOk).2.1.symm.trans hd
  cases hs

/-- Not repaired in /repo (hand-built schemas only): it is also false without any `Option`, for a
struct with two fields of the same name. -/
theorem dyn_reencode_false_dup_fields :
    ¬ (∀ (fo : FloatOps), FloatOk fo → FloatOk2 fo → ∀ (s : Schema) (j : Json) (bs : List Byte),
        (∀ t, s ≠ .option t) → j.wf fo = true → dynSer fo s j = .ok bs →
        ∃ j', dynDe fo s bs = .ok (j', []) ∧ dynSer fo s j' = .ok bs) := by
  intro h
  have w := witness_reencode_dup_fields foOk
  obtain ⟨j', hd, hs⟩ := h foOk foOk_ok foOk_ok2 _ _ _ (by intro t ht; cases ht) (by decide) w.1
  cases w.2.1.symm.trans hd
  cases w.2.2.symm.trans hs

/-- the exclusions of `reencOk` are exactly these two shapes: examples inside / outside. -/
example : reencOk (.option .unit) = false ∧ reencOk (.option (.option .u8)) = true ∧
    reencOk (.struct [83] (.struct [.mk [97] .u8, .mk [97] .u8])) = false ∧
    reencOk (.tuple [.f32, .char, .schema, .tuple [], .tuple [.unit], .map .string (.seq .unit),
      .map .u8 .u8, .enum [69] [.mk [65] .unit, .mk [66] (.tuple []),
        .mk [67] (.struct [.mk [97] .i128])]]) = true := by decide

/-
TODO (not proved):
* exact characterisation of the re-encoding failures (`reencOk s = false → ∃ j, …`): the two
  excluded shapes come with witnesses, not with a general converse.
-/

end Postcard
