import Postcard.Model.Entry
import Postcard.Lemmas.RoundTrip
import Postcard.Lemmas.Flavor
/-
  Postcard.Props.C01 — "Encode/decode round-trip is the identity for every
  serde data-model value."
-/
namespace Postcard

/-- `(300u16, Some("hi"), E::B(-2i32))` with `enum E { A, B(i32) }`. -/
def C01.exV : Val :=
  .tuple [.u .w16 300, .some (.str [0x68, 0x69]), .newtypeVariant 1 (.i .w32 (-2))]
def C01.exT : Ty :=
  .tuple [.u .w16, .option .str, .enum [.unit, .newtypeStruct (.i .w32)]]

theorem C01.ex_hasTy : hasTy C01.exV C01.exT = true := by decide
theorem C01.ex_enc : enc C01.exV = [0xAC, 0x02, 1, 2, 0x68, 0x69, 1, 3] := by decide

/-- C01 (core): decoding the encoding of a well-typed value, followed by any
bytes, yields the value and exactly those bytes. -/
theorem roundtrip (v : Val) (t : Ty) (h : hasTy v t = true) (rest : List Byte) :
    dec t (enc v ++ rest) = .ok (v, rest) := dec_complete (permitted_enc v t h) rest

theorem roundtrip_tuple (vs : List Val) (ts : List Ty) (h : hasTys vs ts = true)
    (rest : List Byte) : decTuple ts (encList vs ++ rest) = .ok (vs, rest) :=
  decTuple_complete (permittedTuple_encList vs ts h) rest

theorem roundtrip_all (vs : List Val) (t : Ty) (h : hasTyAll vs t = true) (rest : List Byte) :
    decN (dec t) vs.length (encList vs ++ rest) = .ok (vs, rest) :=
  decN_complete (permittedAll_encList vs t h) rest

theorem roundtrip_kv (kvs : List Val) (k v : Ty) (h : hasTyKV true kvs k v = true)
    (rest : List Byte) :
    decKV (dec k) (dec v) (kvs.length / 2) (encList kvs ++ rest) = .ok (kvs, rest) :=
  decKV_complete (permittedKV_encList kvs k v h) rest

theorem roundtrip_variant (v : Val) (vts : List Ty) (h : hasTy v (.enum vts) = true)
    (rest : List Byte) :
    ∃ idx payload, idx < 2 ^ 32 ∧ enc v = encVarint 32 idx ++ payload ∧
      decVariant vts idx idx (payload ++ rest) = .ok (v, rest) := by
  obtain ⟨idx, payload, hi, he⟩ :
      ∃ idx payload, idx < 2 ^ 32 ∧ enc v = encVarint 32 idx ++ payload := by
    cases v with
    | unitVariant idx =>
      exact ⟨idx, [], of_decide_eq_true (Bool.and_eq_true_iff.1 h).1, (List.append_nil _).symm⟩
    | newtypeVariant idx _ | tupleVariant idx _ | structVariant idx _ =>
      exact ⟨idx, _, of_decide_eq_true (Bool.and_eq_true_iff.1 h).1, rfl⟩
    | _ => cases h
  have hr := roundtrip v (.enum vts) h rest
  simp only [he, dec, List.append_assoc, decVarint_encVarint widthOk32 hi] at hr
  exact ⟨idx, payload, hi, he, hr⟩

theorem decVariant_walk (vts : List Ty) (idx : Nat) (vt : Ty) (h : vts[idx]? = some vt)
    (bs : List Byte) : decVariant vts idx idx bs = decVariant [vt] 0 idx bs :=
  decVariant_some vts idx idx bs vt h

example : dec C01.exT (enc C01.exV ++ [7, 8]) = .ok (C01.exV, [7, 8]) :=
  roundtrip _ _ C01.ex_hasTy _
example : dec C01.exT ([0xAC, 0x02, 1, 2, 0x68, 0x69, 1, 3] ++ [7, 8]) = .ok (C01.exV, [7, 8]) := by
  rfl
example : hasTys [.bool true, .unit] [.bool, .unit] = true := by decide +kernel
example : hasTyAll [.u .w8 1, .u .w8 255] (.u .w8) = true := by decide +kernel
example : hasTyKV true [.u .w8 1, .str [0x61], .u .w8 2, .str []] (.u .w8) .str = true := by
  decide +kernel
example : hasTy (.map [.u .w8 1, .str [0x61], .u .w8 2, .str []]) (.map (.u .w8) .str) = true := by
  decide +kernel
example : hasTy (.structVariant 2 [.char 0x20AC, .i .w8 (-128)])
    (.enum [.unit, .tuple [], .struct [.char, .i .w8]]) = true := by decide +kernel

theorem encode_entry_out (v : Val) :
    (∀ out, toAllocVec v = .ok out → out = enc v) ∧
    (∀ buf out, (toSlice v buf).2 = .ok out → out = enc v) ∧
    (∀ cap out, (toHVec cap v).2 = .ok out → out = enc v) := by
  refine ⟨fun out h => ?_, fun buf out h => ?_, fun cap out h => ?_⟩
  · rw [toAllocVec_eq] at h
    injection h with h; exact h.symm
  · rw [to_slice_threshold] at h
    split at h
    · injection h with h; exact h.symm
    · cases h
  · rw [to_hvec_threshold] at h
    split at h
    · injection h with h; exact h.symm
    · cases h

theorem encode_entry_succeeds (v : Val) :
    toAllocVec v = .ok (enc v) ∧
    (∀ buf, (enc v).length ≤ buf.length → (toSlice v buf).2 = .ok (enc v)) ∧
    (∀ cap, (enc v).length ≤ cap → (toHVec cap v).2 = .ok (enc v)) :=
  ⟨toAllocVec_eq v, fun buf h => (to_slice_threshold v buf).trans (if_pos h),
    fun cap h => (to_hvec_threshold cap v).trans (if_pos h)⟩

theorem decode_entries (v : Val) (t : Ty) (h : hasTy v t = true) (rest : List Byte) :
    takeFromBytes t (enc v ++ rest) = .ok (v, rest) ∧ fromBytes t (enc v ++ rest) = .ok v :=
  ⟨roundtrip v t h rest, by rw [fromBytes, roundtrip v t h rest]; rfl⟩

/-- C01 (pairs of entry points): whichever of `to_allocvec`, `to_slice`, `to_vec` produced `out`,
`take_from_bytes` and `from_bytes` recover `v` from `out ++ rest` (`take_from_bytes` also returns
`rest` untouched).  `to_io` / `from_io`: `writer_reader_roundtrip`, Props/C11.lean. -/
theorem roundtrip_all_pairs (v : Val) (t : Ty) (h : hasTy v t = true) (rest : List Byte) :
    (∀ out, toAllocVec v = .ok out →
      takeFromBytes t (out ++ rest) = .ok (v, rest) ∧ fromBytes t (out ++ rest) = .ok v) ∧
    (∀ buf out, (toSlice v buf).2 = .ok out →
      takeFromBytes t (out ++ rest) = .ok (v, rest) ∧ fromBytes t (out ++ rest) = .ok v) ∧
    (∀ cap out, (toHVec cap v).2 = .ok out →
      takeFromBytes t (out ++ rest) = .ok (v, rest) ∧ fromBytes t (out ++ rest) = .ok v) := by
  obtain ⟨h1, h2, h3⟩ := encode_entry_out v
  have hd := decode_entries v t h rest
  exact ⟨fun out ho => h1 out ho ▸ hd, fun buf out ho => h2 buf out ho ▸ hd,
    fun cap out ho => h3 cap out ho ▸ hd⟩

example : toAllocVec C01.exV = .ok [0xAC, 0x02, 1, 2, 0x68, 0x69, 1, 3] := by rfl
example : (toSlice C01.exV (List.replicate 8 0)).2 = .ok [0xAC, 0x02, 1, 2, 0x68, 0x69, 1, 3] := by
  rfl
example : (toHVec 8 C01.exV).2 = .ok [0xAC, 0x02, 1, 2, 0x68, 0x69, 1, 3] := by rfl
example : fromBytes C01.exT ([0xAC, 0x02, 1, 2, 0x68, 0x69, 1, 3] ++ [9]) = .ok C01.exV := by rfl
example : takeFromBytes C01.exT ([0xAC, 0x02, 1, 2, 0x68, 0x69, 1, 3] ++ [9]) =
    .ok (C01.exV, [9]) :=
  ((roundtrip_all_pairs _ _ C01.ex_hasTy [9]).1 _ (by rfl)).1
example : emit C01.exV =
    [.extend [0xAC, 0x02], .push 1, .extend [2], .extend [0x68, 0x69], .extend [1],
      .extend [3]] := by
  rfl
example : (emit C01.exV).flatMap Chunk.bytes = enc C01.exV := emit_flatten _

end Postcard
