import Postcard.Props.C05
import Postcard.Props.C05Framed
import Postcard.Props.C05Collect
import Postcard.Props.C05PostError
-- property theorems of C05: every one must depend only on propext / Classical.choice / Quot.sound
#print axioms Postcard.slice_feed_fits
#print axioms Postcard.slice_feed_overflow
#print axioms Postcard.slice_feed_overflow_prefix
#print axioms Postcard.slice_step_in_bounds
#print axioms Postcard.to_slice_threshold
#print axioms Postcard.prefix_and_tail
#print axioms Postcard.to_slice_mem_length
#print axioms Postcard.to_hvec_threshold
#print axioms Postcard.to_hvec_within_capacity
#print axioms Postcard.size_exact
#print axioms Postcard.alloc_never_fails
#print axioms Postcard.to_slice_ok_iff_size
#print axioms Postcard.to_slice_crc_threshold
#print axioms Postcard.to_slice_crc_buffer
#print axioms Postcard.to_hvec_crc_threshold
#print axioms Postcard.to_hvec_crc_within_capacity
#print axioms Postcard.to_slice_cobs_cases
#print axioms Postcard.to_slice_cobs_threshold
#print axioms Postcard.to_slice_cobs_in_bounds
#print axioms Postcard.to_hvec_cobs_cases
#print axioms Postcard.to_hvec_cobs_threshold
#print axioms Postcard.to_hvec_cobs_within_capacity
#print axioms Postcard.to_slice_cobs_size_bounds
#print axioms Postcard.framed_fixed_never_panic
#print axioms Postcard.collect_alloc
#print axioms Postcard.collect_slice_threshold
#print axioms Postcard.collect_slice_buffer
#print axioms Postcard.collect_hvec_threshold
#print axioms Postcard.collect_hvec_within_capacity
#print axioms Postcard.collect_never_ok_truncated
#print axioms Postcard.collect_pieces_irrelevant
#print axioms Postcard.slice_any_history
#print axioms Postcard.hvec_any_history
