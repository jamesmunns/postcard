import Postcard.Props.C11
import Postcard.Props.C11Sched
import Postcard.Props.C04Scratch
-- property theorems of C11: every one must depend only on propext / Classical.choice / Quot.sound
#print axioms Postcard.decG_slice_eq_dec
#print axioms Postcard.takeFromBytesG_eq
#print axioms Postcard.slice_reads_in_bounds
#print axioms Postcard.slice_pop_in_bounds
#print axioms Postcard.slice_take_in_bounds
#print axioms Postcard.slots_disjoint
#print axioms Postcard.reader_step
#print axioms Postcard.reader_equiv
#print axioms Postcard.reader_equiv'
#print axioms Postcard.reader_roundtrip
#print axioms Postcard.reader_value_eq_slice_gen
#print axioms Postcard.reader_value_eq_slice
#print axioms Postcard.reader_success_exact
#print axioms Postcard.reader_consecutive_gen
#print axioms Postcard.reader_consecutive
#print axioms Postcard.reader_two
#print axioms Postcard.scratch_too_small_gen
#print axioms Postcard.scratch_too_small
#print axioms Postcard.reader_fault
#print axioms Postcard.reader_eof
#print axioms Postcard.fromIo_error_kinds
#print axioms Postcard.fromIo_total
#print axioms Postcard.fromIo_error_eq_slice
#print axioms Postcard.writer_bytes_gen
#print axioms Postcard.writer_bytes
#print axioms Postcard.writer_no_fault_needed
#print axioms Postcard.writer_fault
#print axioms Postcard.writer_fault_prefix
#print axioms Postcard.writer_threshold
#print axioms Postcard.writer_always_prefix
#print axioms Postcard.writer_flush_fault
#print axioms Postcard.writer_consecutive
#print axioms Postcard.writer_reader_roundtrip
#print axioms Postcard.slice_seq_hint
#print axioms Postcard.reader_seq_hint
#print axioms Postcard.writeAllLoop_prefix
#print axioms Postcard.writeAllLoop_fail_strict
#print axioms Postcard.writeAllLoop_refines
#print axioms Postcard.writeAllLoop_interrupts_invisible
#print axioms Postcard.writeAllLoop_of_filter_eq
#print axioms Postcard.readExactLoop_prefix
#print axioms Postcard.readExactLoop_refines
#print axioms Postcard.readExactLoop_interrupts_invisible
#print axioms Postcard.readExactLoop_of_filter_eq
#print axioms Postcard.to_io_any_schedule
#print axioms Postcard.to_io_sched_refines
#print axioms Postcard.from_io_any_schedule
#print axioms Postcard.SBuf.inv_run
#print axioms Postcard.scratch_history_safe
#print axioms Postcard.take_refused_unchanged
#print axioms Postcard.take_read_failed_keeps_slot
