import Postcard.Props.C20
-- property theorems of C20: every one must depend only on propext / Classical.choice / Quot.sound
#print axioms Postcard.crcSer_over_any
#print axioms Postcard.stack_composes
#print axioms Postcard.plain_composes
#print axioms Postcard.crc_over
#print axioms Postcard.crc_over_lawful
#print axioms Postcard.cobs_over
#print axioms Postcard.cobs_over_lawful
#print axioms Postcard.crc_then_cobs
#print axioms Postcard.crc_then_cobs_run
#print axioms Postcard.crc_then_cobs_alloc
#print axioms Postcard.crc_then_cobs_hvec
#print axioms Postcard.crc_then_cobs_slice
#print axioms Postcard.crc_then_cobs_slice_bound
#print axioms Postcard.crc_then_cobs_eq_composition
#print axioms Postcard.unstack
#print axioms Postcard.stack_roundtrip
#print axioms Postcard.user_flavor_sees_plain_stack
#print axioms Postcard.user_flavor_sees_plain
