import Postcard.Props.C07
-- property theorems of C07: every one must depend only on propext / Classical.choice / Quot.sound
#print axioms Postcard.cobs_de_total
#print axioms Postcard.malformed_iff
#print axioms Postcard.cobs_de_eq_spec
#print axioms Postcard.remainder_after_sentinel
#print axioms Postcard.remainder_cases
#print axioms Postcard.writes_confined
