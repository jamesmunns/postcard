import Postcard.Lemmas.Accumulator
import Postcard.Lemmas.Bytes
import Postcard.Lemmas.Cobs
import Postcard.Lemmas.Codec
import Postcard.Lemmas.Conforms
import Postcard.Lemmas.Crc
import Postcard.Lemmas.DeFlavor
import Postcard.Lemmas.Decode
import Postcard.Lemmas.Dyn
import Postcard.Lemmas.Flavor
import Postcard.Lemmas.Fnv
import Postcard.Lemmas.HasTy
import Postcard.Lemmas.MaxSize
import Postcard.Lemmas.RoundTrip
import Postcard.Lemmas.SchemaFmt
import Postcard.Lemmas.SchemaSer
import Postcard.Lemmas.SlidingBuffer
import Postcard.Lemmas.Stack
import Postcard.Lemmas.Storage
import Postcard.Lemmas.Varint
import Postcard.Model.Accumulator
import Postcard.Model.Basic
import Postcard.Model.CallTree
import Postcard.Model.Cobs
import Postcard.Model.Crc
import Postcard.Model.CrcDe
import Postcard.Model.DataModel
import Postcard.Model.De
import Postcard.Model.DeFlavor
import Postcard.Model.Dyn
import Postcard.Model.DynCost
import Postcard.Model.Entry
import Postcard.Model.EnumAt
import Postcard.Model.EntryFramed
import Postcard.Model.Fixint
import Postcard.Model.Flavor
import Postcard.Model.Json
import Postcard.Model.JsonOf
import Postcard.Model.MaxSize
import Postcard.Model.MaxSizeExact
import Postcard.Model.Schema
import Postcard.Model.SchemaFmt
import Postcard.Model.SchemaHash
import Postcard.Model.SchemaImpls
import Postcard.Model.SchemaSer
import Postcard.Model.Ser
import Postcard.Model.Sexp
import Postcard.Model.SexpCT
import Postcard.Model.SexpJson
import Postcard.Model.SexpMTy
import Postcard.Model.SexpRTy
import Postcard.Model.SexpSchema
import Postcard.Model.SizeHint
import Postcard.Model.SlidingBuffer
import Postcard.Model.Utf8
import Postcard.Model.Varint
import Postcard.Props.C01
import Postcard.Props.C01EnumAt
import Postcard.Props.C02
import Postcard.Props.C03
import Postcard.Props.C04
import Postcard.Props.C04Scratch
import Postcard.Props.C05
import Postcard.Props.C05Collect
import Postcard.Props.C05Framed
import Postcard.Props.C05PostError
import Postcard.Props.C06
import Postcard.Props.C07
import Postcard.Props.C08
import Postcard.Props.C09
import Postcard.Props.C10
import Postcard.Props.C10Flavor
import Postcard.Props.C11
import Postcard.Props.C11Sched
import Postcard.Props.C12
import Postcard.Props.C12Exact
import Postcard.Props.C13
import Postcard.Props.C14
import Postcard.Props.C15
import Postcard.Props.C16
import Postcard.Props.C17
import Postcard.Props.C18
import Postcard.Props.C18Alloc
import Postcard.Props.C19
import Postcard.Props.C20
import Postcard.Props.EndToEnd
import Postcard.Spec.Cobs
import Postcard.Spec.Conforms
import Postcard.Spec.Fnv
import Postcard.Spec.Permitted
import Postcard.Spec.Wire
